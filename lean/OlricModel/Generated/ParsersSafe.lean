/- GENERATED by /verif/extract/parsers. One obligation per parser: the checker accepts it, hence
   (`Olric.IR.safe_sound`) no argument vector of any length makes it panic or spin.  Each is a run of the
   checker on a fixed program, evaluated by the kernel alone (`+kernel`: the elaborator does not run it
   first). -/
import OlricModel.Generated.Parsers
import OlricModel.Proofs.IRSound
namespace Olric.Parsers
open Olric.IR

theorem translator_complete : untranslated = [] := by decide

theorem ParseClusterMembers_safe : safe prog_ParseClusterMembers = true := by decide +kernel
theorem ParseClusterRoutingTable_safe : safe prog_ParseClusterRoutingTable = true := by decide +kernel
theorem ParseDecrCommand_safe : safe prog_ParseDecrCommand = true := by decide +kernel
theorem ParseDelCommand_safe : safe prog_ParseDelCommand = true := by decide +kernel
theorem ParseDelEntryCommand_safe : safe prog_ParseDelEntryCommand = true := by decide +kernel
theorem ParseDestroyCommand_safe : safe prog_ParseDestroyCommand = true := by decide +kernel
theorem ParseExpireCommand_safe : safe prog_ParseExpireCommand = true := by decide +kernel
theorem ParseGetCommand_safe : safe prog_ParseGetCommand = true := by decide +kernel
theorem ParseGetEntryCommand_safe : safe prog_ParseGetEntryCommand = true := by decide +kernel
theorem ParseGetPutCommand_safe : safe prog_ParseGetPutCommand = true := by decide +kernel
theorem ParseIncrByFloatCommand_safe : safe prog_ParseIncrByFloatCommand = true := by decide +kernel
theorem ParseIncrCommand_safe : safe prog_ParseIncrCommand = true := by decide +kernel
theorem ParseLengthOfPartCommand_safe : safe prog_ParseLengthOfPartCommand = true := by decide +kernel
theorem ParseLockCommand_safe : safe prog_ParseLockCommand = true := by decide +kernel
theorem ParseLockLeaseCommand_safe : safe prog_ParseLockLeaseCommand = true := by decide +kernel
theorem ParseMoveFragmentCommand_safe : safe prog_ParseMoveFragmentCommand = true := by decide +kernel
theorem ParsePExpireCommand_safe : safe prog_ParsePExpireCommand = true := by decide +kernel
theorem ParsePLockLeaseCommand_safe : safe prog_ParsePLockLeaseCommand = true := by decide +kernel
theorem ParsePSubscribeCommand_safe : safe prog_ParsePSubscribeCommand = true := by decide +kernel
theorem ParsePingCommand_safe : safe prog_ParsePingCommand = true := by decide +kernel
theorem ParsePubSubChannelsCommand_safe : safe prog_ParsePubSubChannelsCommand = true := by decide +kernel
theorem ParsePubSubNumpatCommand_safe : safe prog_ParsePubSubNumpatCommand = true := by decide +kernel
theorem ParsePubSubNumsubCommand_safe : safe prog_ParsePubSubNumsubCommand = true := by decide +kernel
theorem ParsePublishCommand_safe : safe prog_ParsePublishCommand = true := by decide +kernel
theorem ParsePublishInternalCommand_safe : safe prog_ParsePublishInternalCommand = true := by decide +kernel
theorem ParsePutCommand_safe : safe prog_ParsePutCommand = true := by decide +kernel
theorem ParsePutEntryCommand_safe : safe prog_ParsePutEntryCommand = true := by decide +kernel
theorem ParseScanCommand_safe : safe prog_ParseScanCommand = true := by decide +kernel
theorem ParseStatsCommand_safe : safe prog_ParseStatsCommand = true := by decide +kernel
theorem ParseSubscribeCommand_safe : safe prog_ParseSubscribeCommand = true := by decide +kernel
theorem ParseUnlockCommand_safe : safe prog_ParseUnlockCommand = true := by decide +kernel
theorem ParseUpdateRoutingCommand_safe : safe prog_ParseUpdateRoutingCommand = true := by decide +kernel

theorem all_safe : all.all (fun np => safe np.2) = true := by
  simp only [all, List.all_cons, List.all_nil, Bool.and_self,
    ParseClusterMembers_safe,
    ParseClusterRoutingTable_safe,
    ParseDecrCommand_safe,
    ParseDelCommand_safe,
    ParseDelEntryCommand_safe,
    ParseDestroyCommand_safe,
    ParseExpireCommand_safe,
    ParseGetCommand_safe,
    ParseGetEntryCommand_safe,
    ParseGetPutCommand_safe,
    ParseIncrByFloatCommand_safe,
    ParseIncrCommand_safe,
    ParseLengthOfPartCommand_safe,
    ParseLockCommand_safe,
    ParseLockLeaseCommand_safe,
    ParseMoveFragmentCommand_safe,
    ParsePExpireCommand_safe,
    ParsePLockLeaseCommand_safe,
    ParsePSubscribeCommand_safe,
    ParsePingCommand_safe,
    ParsePubSubChannelsCommand_safe,
    ParsePubSubNumpatCommand_safe,
    ParsePubSubNumsubCommand_safe,
    ParsePublishCommand_safe,
    ParsePublishInternalCommand_safe,
    ParsePutCommand_safe,
    ParsePutEntryCommand_safe,
    ParseScanCommand_safe,
    ParseStatsCommand_safe,
    ParseSubscribeCommand_safe,
    ParseUnlockCommand_safe,
    ParseUpdateRoutingCommand_safe]

end Olric.Parsers
