/-
  C14 — Pub/Sub delivers each message exactly once to every matching subscriber.
  Statements about PubSub/Model.lean, for an arbitrary glob matcher `g`.
-/
import OlricModel.PubSub.Model
import OlricModel.Generated.Facts
namespace Olric.C14
open Olric Olric.PubSub

inductive Op
  | sub (m conn : Nat) (pat : Bool) (name : Bytes)
  | unsub (m conn : Nat) (pat : Bool) (name : Bytes)
  | unsubAll (m conn : Nat) (pat : Bool)
  | disconnect (m conn : Nat)

def step (ps : PS) : Op → PS
  | .sub m c p n => (subscribe ps m c p n).1
  | .unsub m c p n => (unsubscribe ps m c p n).1
  | .unsubAll m c p => unsubscribeAll ps m c p
  | .disconnect m c => disconnect ps m c

def Inv (ps : PS) : Prop := ∀ m, (ps m).Nodup

theorem setM_same (ps : PS) (m : Nat) (l : List Sub) : setM ps m l m = l := by simp [setM]
theorem setM_other (ps : PS) (m j : Nat) (l : List Sub) (h : j ≠ m) : setM ps m l j = ps j := by simp [setM, h]

theorem inv_setM {ps : PS} (h : Inv ps) (m : Nat) {l : List Sub} (hl : l.Nodup) : Inv (setM ps m l) := by
  intro j
  unfold setM
  split
  · exact hl
  · exact h j

theorem inv_step (ps : PS) (op : Op) (h : Inv ps) : Inv (step ps op) := by
  cases op with
  | sub m c p n =>
    refine inv_setM h m ?_
    split
    · exact h m
    · -- appended only when not there yet
      exact (List.perm_append_singleton _ _).nodup_iff.mpr
        (List.nodup_cons.mpr ⟨fun hm => ‹¬ _› (List.contains_iff_mem.mpr hm), h m⟩)
  -- the other three filter the member's list
  | _ => exact inv_setM h _ ((h _).filter _)

theorem inv_run (ops : List Op) : Inv (ops.foldl step PS.empty) :=
  List.foldlRecOn ops step (fun _ => List.nodup_nil) fun ps h op _ => inv_step ps op h

theorem mem_publish {g : Glob} {ps : PS} {members : List Nat} {ch : Bytes} {m : Nat} {s : Sub} :
    (m, s) ∈ (publish g ps members ch).1 ↔ (m ∈ members ∧ s ∈ ps m ∧ isMatch g ch s = true) := by
  simp [publish, deliveries]

theorem nodup_publish (g : Glob) {ps : PS} {members : List Nat} (ch : Bytes) (hinv : Inv ps) (hm : members.Nodup) :
    (publish g ps members ch).1.Nodup := by
  refine List.pairwise_flatMap.mpr ⟨fun m _ => ?_, hm.imp fun hne x hx y hy e => hne ?_⟩
  · exact ((hinv m).filter _).map _ fun a b hab e => hab (Prod.mk.inj e).2
  · obtain ⟨_, _, rfl⟩ := List.mem_map.mp hx
    obtain ⟨_, _, rfl⟩ := List.mem_map.mp hy
    exact (Prod.mk.inj e).1

/-- **C14 (delivery).**  After any history of subscribe / psubscribe / unsubscribe / punsubscribe /
    disconnect over any connections and members, a message published on `ch` is delivered exactly
    once to every current subscription whose channel is `ch` or whose pattern matches `ch` — on every
    member — and to nothing else. -/
theorem C14_delivery (g : Glob) (ops : List Op) (members : List Nat) (hm : members.Nodup) (ch : Bytes) :
    let ps := ops.foldl step PS.empty
    (publish g ps members ch).1.Nodup ∧
    ∀ m s, (m, s) ∈ (publish g ps members ch).1 ↔ (m ∈ members ∧ s ∈ ps m ∧ isMatch g ch s = true) :=
  ⟨nodup_publish g ch (inv_run ops) hm, fun _ _ => mem_publish⟩

/-- **C14 (count).**  The number PUBLISH returns is the number of deliveries. -/
theorem C14_count (g : Glob) (ps : PS) (members : List Nat) (ch : Bytes) :
    (publish g ps members ch).2 = (publish g ps members ch).1.length := rfl

/-- publishCommandHandler adds up its own count and every member's PUBLISH.INTERNAL reply -/
theorem publish_count (g : Glob) (ps : PS) (members : List Nat) (ch : Bytes) :
    (publish g ps members ch).2 = (members.map fun m => (deliveries g (ps m) ch).length).sum := by
  simp [publish, List.length_flatMap]

/-- a pattern that does not match, and a channel that differs, are neither delivered nor counted -/
theorem C14_no_match_no_count (g : Glob) (ps : PS) (m : Nat) (ch : Bytes)
    (h : ∀ s ∈ ps m, isMatch g ch s = false) : (publish g ps [m] ch).2 = 0 := by
  simpa [publish_count, deliveries, List.filter_eq_nil_iff] using h

/-- **C14 (silence).**  After UNSUBSCRIBE / PUNSUBSCRIBE of a subscription no later message reaches it. -/
theorem C14_silence_unsub (g : Glob) (ps : PS) (m conn : Nat) (pat : Bool) (name ch : Bytes) :
    (⟨conn, pat, name⟩ : Sub) ∉ deliveries g ((unsubscribe ps m conn pat name).1 m) ch := by
  simp [unsubscribe, setM_same, deliveries]

/-- … and after the disconnect of a connection none reaches any of its subscriptions -/
theorem C14_silence_disconnect (g : Glob) (ps : PS) (m conn : Nat) (ch : Bytes) :
    ∀ s ∈ deliveries g ((disconnect ps m conn) m) ch, s.conn ≠ conn := by
  intro s hs
  simp only [disconnect, setM_same, deliveries, List.mem_filter] at hs
  simpa using hs.1.2

theorem mem_dedup (x : Bytes) (l : List Bytes) : x ∈ dedup l ↔ x ∈ l := by
  induction l with
  | nil => simp [dedup]
  | cons a l ih =>
    simp only [dedup]
    split
    · rename_i hc
      rw [ih, List.mem_cons, or_iff_right_of_imp fun h => h ▸ List.contains_iff_mem.mp hc]
    · simp [ih]

theorem nodup_dedup (l : List Bytes) : (dedup l).Nodup := by
  induction l with
  | nil => simp [dedup]
  | cons a l ih =>
    simp only [dedup]
    split
    · exact ih
    · rename_i hc
      exact List.nodup_cons.mpr ⟨fun h => hc (List.contains_iff_mem.mpr ((mem_dedup a l).mp h)), ih⟩

/-- **C14 (introspection).**  PUBSUB CHANNELS lists each channel that has a subscriber exactly once and
    no pattern; NUMSUB counts the connections subscribed to the channel (pattern subscriptions with
    the same text do not count); NUMPAT counts distinct patterns. -/
theorem C14_introspection (g : Glob) (ps : PS) (m : Nat) (hinv : Inv ps) :
    (channels g ps m none).Nodup ∧
    (∀ ch, ch ∈ channels g ps m none ↔ ∃ s ∈ ps m, s.pat = false ∧ s.name = ch) ∧
    (∀ ch, numsub ps m ch = ((ps m).filter (fun s => !s.pat && s.name == ch)).length) ∧
    (∀ ch, (((ps m).filter (fun s => !s.pat && s.name == ch)).map (·.conn)).Nodup) := by
  refine ⟨nodup_dedup _, fun ch => ?_, fun _ => rfl, fun ch => ?_⟩
  · simp [channels, mem_dedup, and_assoc]
  · refine List.pairwise_map.mpr (((hinv m).filter _).imp_of_mem fun {a b} ha hb hne e => hne ?_)
    simp only [List.mem_filter, Bool.and_eq_true, Bool.not_eq_eq_eq_not, Bool.not_true, beq_iff_eq] at ha hb
    -- both are channel subscriptions to `ch`: with the same connection they are the same subscription
    cases a; cases b
    simp_all

theorem facts_tie :
    Facts.publish_counts_only_matches = true ∧ Facts.subscribe_is_idempotent = true ∧
    Facts.numsub_excludes_patterns = true := by decide

example : (publish globMatch ((subscribe ((subscribe PS.empty 0 1 false [110]).1) 0 2 true [110, 42]).1) [0] [110, 49]).2 = 1 := by decide
example : (publish globMatch ((subscribe ((subscribe PS.empty 0 1 false [110]).1) 0 1 false [110]).1) [0] [110]).2 = 1 := by decide

end Olric.C14
