/-
  C06 — Conflicting copies resolve to the newest write (LWW read, merge, read-repair).
  Statements about DMap/Model.lean (`sortV`, `get`) and the store-level merge `KV.lww` (C11_transfer).
-/
import OlricModel.Proofs.HealthyCluster
import OlricModel.Proofs.KVXfer
namespace Olric.C06
open Olric Olric.DMap

abbrev V := Nat × Kind × Copy

/-- **C06 (read newest).**  Of any set of gathered versions — with ties and missing copies — the one
    a read returns carries the newest write timestamp. -/
theorem C06_read_newest (l : List V) (w : V) (ws : List V) (hs : sortV l = w :: ws) :
    ∀ v ∈ l, v.2.2.ts ≤ w.2.2.ts :=
  (sortV_head hs).2

/-- and it is one of the gathered versions -/
theorem C06_winner_is_a_copy (l : List V) (w : V) (ws : List V) (hs : sortV l = w :: ws) : w ∈ l :=
  (sortV_head hs).1

/-- what Get answers is the newest live copy among owner, previous owners and reachable backups -/
theorem C06_get_returns_newest (cfg : Cfg) (r : Route) (reach : Reach) (c : Cluster) (dm : Bytes) (k : Key) (now : Int)
    (w : Copy) (h : (get cfg r reach c dm k now).2 = .val w) :
    ∀ v ∈ versions r reach c dm k now, ∀ x, v.2.2 = some x → x.ts ≤ w.ts := by
  rw [get_snd] at h
  obtain ⟨top, _, hs, rfl, _⟩ := answer_val h
  intro v hv x hx
  exact (sortV_head hs).2 _ (mem_copies_of hv hx)

/-- **C06 (merge).**  Merging any list of incoming versions of a key — in ANY order, with ANY
    repetitions — onto the stored one leaves a version whose timestamp is the maximum of all of them;
    two deliveries that contain the same versions (a permutation, with duplicates) agree on that
    timestamp, and on the whole record when no two different versions share a timestamp. -/
theorem C06_merge_lww (cur : Option Copy) (l1 l2 : List Copy) (r1 r2 : Copy)
    (hsame : ∀ x, x ∈ l1 ↔ x ∈ l2) (h1 : mergeAll cur l1 = some r1) (h2 : mergeAll cur l2 = some r2) :
    r1.ts = r2.ts ∧
    ((∀ x y, (x ∈ l1 ∨ cur = some x) → (y ∈ l1 ∨ cur = some y) → x.ts = y.ts → x = y) → r1 = r2) := by
  obtain ⟨m1, x1⟩ := mergeAll_max h1
  obtain ⟨m2, x2⟩ := mergeAll_max h2
  have m2' : r2 ∈ l1 ∨ cur = some r2 := m2.imp_left (hsame r2).mpr
  have hts : r1.ts = r2.ts := Int.le_antisymm (x2 r1 (m1.imp_left (hsame r1).mp)) (x1 r2 m2')
  exact ⟨hts, fun hinj => hinj r1 r2 m1 m2' hts⟩

/-- the cluster-level hand-over is that fold: after any sequence of received tables (entries of any keys,
    in any order, repeated at will) the receiver's copy of `k` is `mergeAll` of its versions of `k` in
    arrival order, and the copies of every other member / kind / DMap are untouched -/
theorem C06_mergeEntries (incs : List (Key × Copy)) (c : Cluster) (m : Nat) (kind : Kind) (dm : Bytes) (k : Key) :
    (mergeEntries c m kind dm incs).1.copy m kind dm k =
      (if (incs.filter (fun e => e.1 = k)).isEmpty then c.copy m kind dm k
       else mergeAll (c.copy m kind dm k) ((incs.filter (fun e => e.1 = k)).map (·.2))) ∧
    ∀ j kind' dm' k', ¬(j = m ∧ kind' = kind ∧ dm' = dm) →
      (mergeEntries c m kind dm incs).1.copy j kind' dm' k' = c.copy j kind' dm' k' := by
  refine ⟨?_, fun j kind' dm' k' hne => by rw [copy_mergeEntries, if_neg hne]⟩
  rw [copy_mergeEntries, if_pos ⟨rfl, rfl, rfl⟩]
  cases incs.filter (fun e => e.1 = k) <;> rfl

/-- re-delivering the same table changes nothing more (idempotence on the timestamp) -/
theorem C06_merge_idempotent (cur : Option Copy) (l : List Copy) (r r' : Copy)
    (h1 : mergeAll cur l = some r) (h2 : mergeAll cur (l ++ l) = some r') : r.ts = r'.ts :=
  (C06_merge_lww cur l (l ++ l) r r' (fun x => by simp) h1 h2).1

/-- the store-level merge callback is this function (dmap.fragmentMergeFunction over kvstore) -/
theorem C06_store_merge_is_lww (c : Rec) (inc : Rec) (now : Int) :
    (KV.lww (some c) inc now).map (·.ts) = some (if inc.ts ≥ c.ts then inc.ts else c.ts) := by
  simp only [KV.lww]; split <;> rfl

/-- With read-repair on, after a Get that returned `w`, every member that answered holds w's timestamp in
    the fragment it answered from — for every route and reachability, previous owners apart (they are
    not repaired: the balancer merges them), and a backup owner that is also the owner apart (it is
    repaired as the owner). -/
theorem read_repair {cfg : Cfg} (hrr : cfg.readRepair = true) {r : Route} {reach : Reach} {c : Cluster} {dm : Bytes}
    {k : Key} {now : Int} {w : Copy} (h : (get cfg r reach c dm k now).2 = .val w)
    {v : Version} (hv : v ∈ versions r reach c dm k now) (hk : v.2.1 = if v.1 = r.owner then .prim else .bak) :
    ((get cfg r reach c dm k now).1.copy v.1 v.2.1 dm k).map (·.ts) = some w.ts := by
  rw [get_fst_of_val hrr h, copy_repair]
  by_cases hs : ∃ v' ∈ versions r reach c dm k now, Stale r w v' ∧ v'.1 = v.1
  · rw [if_pos ⟨hs, hk, rfl, rfl⟩]; rfl
  · -- no stale version of this member was gathered: `v` carries w's timestamp, and `v` is what is stored
    rw [if_neg (fun h => hs h.1)]
    have hnp : ¬ (v.2.1 = .prim ∧ v.1 ≠ r.owner) := fun hp => by rw [hp.1, if_neg hp.2] at hk; cases hk
    have hts : v.2.2.map (·.ts) = some w.ts := Classical.byContradiction fun hne => hs ⟨v, hv, ⟨hnp, hne⟩, rfl⟩
    rw [(mem_versions hv).1] at hts
    obtain ⟨x, hx, hxw⟩ := Option.map_eq_some_iff.mp hts
    rw [(live_eq_some.mp hx).1]
    exact congrArg some hxw

/-- **C06 (read-repair).**  With read-repair on, after a Get that returned `w`: the owner's primary
    copy carries w's timestamp, and so does the backup copy of every reachable backup owner — whether
    it held an older version or none. -/
theorem C06_read_repair (cfg : Cfg) (hrr : cfg.readRepair = true) (r : Route) (c : Cluster) (dm : Bytes) (k : Key)
    (now : Int) (w : Copy) (hprev : r.prev = []) (hown : r.owner ∉ r.baks) (hnd : r.baks.Nodup)
    (h : (get cfg r C04.allReach c dm k now).2 = .val w) :
    ((get cfg r C04.allReach c dm k now).1.copy r.owner .prim dm k).map (·.ts) = some w.ts ∧
    ∀ b ∈ r.baks, ((get cfg r C04.allReach c dm k now).1.copy b .bak dm k).map (·.ts) = some w.ts :=
  ⟨read_repair hrr h owner_mem_versions (if_pos rfl).symm,
   fun b hb => read_repair hrr h (bak_mem_versions hb rfl)
     (if_neg fun e : b = r.owner => hown (e ▸ hb)).symm⟩

/-! Non-vacuity: owner 2 holds ts 1, backup 0 holds ts 5, backup 1 holds nothing; R = 3, read-repair on.
    The read returns the ts-5 copy and afterwards all three hold it. -/
def exC : Cluster :=
  ((Cluster.empty.setCopy 2 .prim [100] [107] (some ⟨[1], 0, 1⟩)).setCopy 0 .bak [100] [107] (some ⟨[9], 0, 5⟩))
example : (get { R := 3, RQ := 2, readRepair := true } ⟨[2], [0, 1]⟩ C04.allReach exC [100] [107] 7).2 = .val ⟨[9], 0, 5⟩ := by decide
example : ((get { R := 3, RQ := 2, readRepair := true } ⟨[2], [0, 1]⟩ C04.allReach exC [100] [107] 7).1.copy 1 .bak [100] [107]) = some ⟨[9], 0, 5⟩ := by decide
example : ((get { R := 3, RQ := 2, readRepair := true } ⟨[2], [0, 1]⟩ C04.allReach exC [100] [107] 7).1.copy 2 .prim [100] [107]) = some ⟨[9], 0, 5⟩ := by decide
example : mergeAll (some ⟨[1], 0, 4⟩) [⟨[2], 0, 9⟩, ⟨[3], 0, 2⟩, ⟨[2], 0, 9⟩] = some ⟨[2], 0, 9⟩ := by decide

end Olric.C06
