/-
  C10 — Eviction keeps a DMap within its configured bounds without harming fresh keys.
  Statements about DMap/Evict.lean.  The random choices of the code (which entries the LRU sampling
  picks, which entries a background scan visits) are universally quantified inputs.
-/
import OlricModel.Proofs.HealthyCluster
import OlricModel.Proofs.SumLemmas
import OlricModel.DMap.Evict
import OlricModel.Generated.Facts
namespace Olric.C10
open Olric Olric.DMap Olric.C04 Olric.C08

/-- one key of a duplicate-free list changes its weight from `w k` to `w' k` (stated without subtraction) -/
theorem sum_update (univ : List Key) (hnd : univ.Nodup) (k : Key) (hk : k ∈ univ) (w w' : Key → Nat)
    (hsame : ∀ x, x ≠ k → w' x = w x) :
    (univ.map w').sum + w k = (univ.map w).sum + w' k := by
  -- bring `k` to the front: the rest of the list does not hold it again
  obtain ⟨s, t, rfl⟩ := List.append_of_mem hk
  have hp : (s ++ k :: t).Perm (k :: (s ++ t)) := List.perm_middle
  have hnotin := (List.nodup_cons.mp (hp.nodup_iff.mp hnd)).1
  have hl : (s ++ t).map w' = (s ++ t).map w := List.map_congr_left fun x hx => hsame x fun e => hnotin (e ▸ hx)
  rw [(hp.map w').sum_nat, (hp.map w).sum_nat, List.map_cons, List.map_cons, List.sum_cons, List.sum_cons, hl,
    Nat.add_right_comm, Nat.add_comm (w' k), Nat.add_right_comm]

/-- one entry of the primary fragment changes: a delete is `o = none` (`copy_owner_del`), a write `o = some e`
    (`copy_owner_replicate`) -/
theorem fragLen_update {c c1 : Cluster} {m : Nat} {dm : Bytes} {univ : List Key} (hnd : univ.Nodup) {k : Key} (hk : k ∈ univ)
    {o : Option Copy} (hupd : ∀ x, c1.copy m .prim dm x = if x = k then o else c.copy m .prim dm x) :
    fragLen c1 m dm univ + (if present c m dm k then 1 else 0) = fragLen c m dm univ + (if o.isSome then 1 else 0) := by
  have := sum_update univ hnd k hk (fun x => if present c m dm x then 1 else 0) (fun x => if present c1 m dm x then 1 else 0)
    (fun x hx => by unfold present; rw [hupd, if_neg hx])
  rw [← length_filter_eq_sum, ← length_filter_eq_sum] at this
  have hk' : present c1 m dm k = o.isSome := by rw [present, hupd, if_pos rfl]
  rwa [hk'] at this

def EqualSize (c : Cluster) (m : Nat) (dm : Bytes) (univ : List Key) (s : Nat) : Prop :=
  ∀ x ∈ univ, present c m dm x = true → sizeOf? c m dm x = s

theorem equalSize_update {c c1 : Cluster} {m : Nat} {dm : Bytes} {univ : List Key} {s : Nat} {k : Key}
    {o : Option Copy} (hupd : ∀ x, c1.copy m .prim dm x = if x = k then o else c.copy m .prim dm x)
    (ho : ∀ e, o = some e → entrySize k e = s) (h : EqualSize c m dm univ s) : EqualSize c1 m dm univ s := by
  intro x hx hp
  simp only [present, sizeOf?, hupd] at hp ⊢
  by_cases e : x = k
  · subst e
    cases o with
    | none => simp at hp
    | some e => simpa using ho e rfl
  · simp only [e, if_false] at hp ⊢
    exact h x hx hp

theorem inuse_eq {c : Cluster} {m : Nat} {dm : Bytes} {univ : List Key} {s : Nat} (h : EqualSize c m dm univ s) :
    fragInuse c m dm univ = s * fragLen c m dm univ := by
  unfold fragInuse fragLen
  induction univ with
  | nil => rfl
  | cons a l ih =>
    rw [List.map_cons, List.sum_cons, List.filter_cons, ih fun x hx => h x (List.mem_cons_of_mem _ hx)]
    cases hp : present c m dm a with
    | true => rw [h a List.mem_cons_self hp, if_pos rfl, List.length_cons, Nat.mul_succ, Nat.add_comm]
    | false =>
      have hc := Option.isNone_iff_eq_none.mp (Option.isSome_eq_false_iff.mp hp)
      rw [sizeOf?, hc, if_neg Bool.false_ne_true, Nat.zero_add]

theorem fragLen_del (cfg : Cfg) {r : Route} {c : Cluster} {dm : Bytes} {univ : List Key} (hnd : univ.Nodup) {v : Key}
    (hv : v ∈ univ) (hp : present c r.owner dm v = true) :
    fragLen (del cfg r c dm v) r.owner dm univ + 1 = fragLen c r.owner dm univ := by
  simpa [hp] using fragLen_update hnd hv (copy_owner_del cfg r c dm v)

theorem fragLen_replicate (cfg : Cfg) (r : Route) (reach : Reach) (c : Cluster) (dm : Bytes) {univ : List Key} (hnd : univ.Nodup)
    {k : Key} (hk : k ∈ univ) (e : Copy) :
    fragLen (replicate cfg r reach c dm k e).1 r.owner dm univ + (if present c r.owner dm k then 1 else 0) =
      fragLen c r.owner dm univ + 1 := by
  simpa using fragLen_update hnd hk (copy_owner_replicate cfg r reach c dm k e)

section
variable {ecfg : EvCfg} {owned : Nat} {cfg : Cfg} {r : Route} {reach : Reach} {c c1 c' : Cluster} {dm : Bytes}
  {univ victims vs : List Key} {full : Bool} {k : Key} {v : Bytes} {pc : PutCfg} {now : Int} {res : Res} {s : Nat}

theorem evictOne_cases (h : evictOne cfg r c dm univ victims = some (c1, vs)) :
    (fragLen c r.owner dm univ = 0 ∧ c1 = c) ∨
    (∃ v, v ∈ univ ∧ present c r.owner dm v = true ∧ c1 = del cfg r c dm v) := by
  unfold evictOne at h
  by_cases h0 : fragLen c r.owner dm univ = 0
  · rw [if_pos h0] at h
    cases h
    exact .inl ⟨h0, rfl⟩
  · rw [if_neg h0] at h
    cases victims with
    | nil => cases h
    | cons v rest =>
      dsimp only at h
      by_cases hv : (present c r.owner dm v && univ.contains v) = true
      · rw [if_pos hv] at h
        cases h
        obtain ⟨hp, hm⟩ := Bool.and_eq_true_iff.mp hv
        exact .inr ⟨v, List.contains_iff_mem.mp hm, hp, rfl⟩
      · rw [if_neg hv] at h; cases h

/-- the eviction `lruPut` runs for one limit: none unless the limit is reached -/
def evictIf (full : Bool) (cfg : Cfg) (r : Route) (c : Cluster) (dm : Bytes) (univ victims : List Key) :
    Option (Cluster × List Key) :=
  if full then evictOne cfg r c dm univ victims else some (c, victims)

/-- an eviction removes one entry, and none from an empty fragment: truncated subtraction says both at once -/
theorem evictIf_len (hnd : univ.Nodup) (h : evictIf full cfg r c dm univ victims = some (c1, vs)) :
    fragLen c1 r.owner dm univ = fragLen c r.owner dm univ - full.toNat := by
  cases full with
  | false => cases h; rfl
  | true =>
    rcases evictOne_cases h with ⟨h0, rfl⟩ | ⟨v, hv, hp, rfl⟩
    · rw [h0, Nat.zero_sub]
    · exact Nat.eq_sub_of_add_eq (fragLen_del cfg hnd hv hp)

theorem evictIf_equalSize (h : evictIf full cfg r c dm univ victims = some (c1, vs))
    (he : EqualSize c r.owner dm univ s) : EqualSize c1 r.owner dm univ s := by
  cases full with
  | false => cases h; exact he
  | true =>
    rcases evictOne_cases h with ⟨_, rfl⟩ | ⟨v, _, _, rfl⟩
    · exact he
    · exact equalSize_update (copy_owner_del cfg r c dm v) (fun _ h => nomatch h) he

/-- also covers the policy switched off (both `evictIf` are then `evictIf false`); the second limit is judged on the
    statistics of `c`, not of `c1`: they are read once -/
theorem lruPut_cases (h : lruPut ecfg owned cfg r reach c dm univ k v pc now victims = some (c', res)) :
    (c' = c ∧ (pc.nx = true ∨ pc.xx = true)) ∨
    ∃ c1 vs1 c2 vs2,
      evictIf (!(!ecfg.lru || owned = 0) && keysFull ecfg owned (fragLen c r.owner dm univ)) cfg r c dm univ victims = some (c1, vs1) ∧
      evictIf (!(!ecfg.lru || owned = 0) && inuseFull ecfg owned (fragInuse c r.owner dm univ)) cfg r c1 dm univ vs1 = some (c2, vs2) ∧
      c' = (replicate cfg r reach c2 dm k ⟨v, prepareTTL pc.ttl cfg.dmTTL now, now⟩).1 ∧
      res = (replicate cfg r reach c2 dm k ⟨v, prepareTTL pc.ttl cfg.dmTTL now, now⟩).2 := by
  simp only [lruPut] at h
  by_cases hnx : (pc.nx && (live (c.copy r.owner .prim dm k) now).isSome) = true
  · rw [if_pos hnx] at h
    cases h
    exact .inl ⟨rfl, .inl (Bool.and_eq_true_iff.mp hnx).1⟩
  rw [if_neg hnx] at h
  by_cases hxx : (pc.xx && (live (c.copy r.owner .prim dm k) now).isNone) = true
  · rw [if_pos hxx] at h
    cases h
    exact .inl ⟨rfl, .inr (Bool.and_eq_true_iff.mp hxx).1⟩
  rw [if_neg hxx] at h
  right
  cases hoff : (!ecfg.lru || decide (owned = 0)) with
  | true =>
    rw [if_pos hoff] at h
    exact ⟨c, victims, c, victims, rfl, rfl, Prod.ext_iff.mp (Option.some.inj h).symm⟩
  | false =>
    rw [hoff, if_neg Bool.false_ne_true] at h
    split at h
    · cases h
    · next c1 vs1 h1 =>
      split at h
      · cases h
      · next c2 vs2 h2 => exact ⟨c1, vs1, c2, vs2, h1, h2, Prod.ext_iff.mp (Option.some.inj h).symm⟩

theorem lruPut_len (hnd : univ.Nodup) (hk : k ∈ univ) (hlru : ecfg.lru = true) (hown : owned > 0)
    (h : lruPut ecfg owned cfg r reach c dm univ k v pc now victims = some (c', res)) :
    fragLen c' r.owner dm univ ≤ fragLen c r.owner dm univ + 1 ∧
    (keysFull ecfg owned (fragLen c r.owner dm univ) = true ∨ inuseFull ecfg owned (fragInuse c r.owner dm univ) = true →
      fragLen c r.owner dm univ > 0 → fragLen c' r.owner dm univ ≤ fragLen c r.owner dm univ) := by
  rcases lruPut_cases h with ⟨rfl, _⟩ | ⟨c1, vs1, c2, vs2, h1, h2, rfl, rfl⟩
  · exact ⟨Nat.le_succ _, fun _ _ => Nat.le_refl _⟩
  · have hon : (!(!ecfg.lru || decide (owned = 0))) = true := by rw [hlru, decide_eq_false (Nat.ne_of_gt hown)]; rfl
    rw [hon, Bool.true_and] at h1 h2
    -- `hle : m' ≤ m - n + 1`: of the `m` entries the evictions remove one per limit reached, `n` in all; the write adds one
    have hle := Nat.le.intro (fragLen_replicate cfg r reach c2 dm hnd hk ⟨v, prepareTTL pc.ttl cfg.dmTTL now, now⟩)
    rw [evictIf_len hnd h2, evictIf_len hnd h1, Nat.sub_sub] at hle
    refine ⟨Nat.le_trans hle (Nat.succ_le_succ (Nat.sub_le _ _)), fun hfull hpos => ?_⟩
    -- a limit reached is `n ≥ 1`, so `m - n + 1 ≤ m - 1 + 1 = m`
    refine Nat.le_trans hle (le_of_le_of_eq (Nat.succ_le_succ (Nat.sub_le_sub_left ?_ _)) (Nat.sub_add_cancel hpos))
    rcases hfull with hf | hf <;> rw [hf]
    · exact Nat.le_add_right 1 _
    · exact Nat.le_add_left 1 _

theorem lruPut_equalSize (hs : entrySize k ⟨v, prepareTTL pc.ttl cfg.dmTTL now, now⟩ = s) (he : EqualSize c r.owner dm univ s)
    (h : lruPut ecfg owned cfg r reach c dm univ k v pc now victims = some (c', res)) :
    EqualSize c' r.owner dm univ s := by
  rcases lruPut_cases h with ⟨rfl, _⟩ | ⟨c1, vs1, c2, vs2, h1, h2, rfl, rfl⟩
  · exact he
  · exact equalSize_update (copy_owner_replicate cfg r reach c2 dm k _)
      (fun _ he => Option.some.inj he ▸ hs) (evictIf_equalSize h2 (evictIf_equalSize h1 he))

theorem lruPut_healthy (hh : Healthy cfg r) (hnx : pc.nx = false) (hxx : pc.xx = false)
    (h : lruPut ecfg owned cfg r allReach c dm univ k v pc now victims = some (c', res)) :
    res = .ok ∧ abs c' r dm k = some ⟨v, prepareTTL pc.ttl cfg.dmTTL now, now⟩ ∧ Mirror c' r dm k := by
  rcases lruPut_cases h with ⟨_, hc⟩ | ⟨_, _, c2, _, _, _, rfl, rfl⟩
  · rw [hnx, hxx] at hc
    exact hc.elim nofun nofun
  · exact replicate_healthy hh c2 dm k _

end

/-- the share of one primary fragment: MaxKeys divided among the partitions the member owns, at least one -/
def share (maxKeys owned : Nat) : Nat := max 1 (maxKeys / owned)

/-- the arithmetic both limits share (`m`, `m'`: the entries or bytes before and after a Put) -/
theorem limit_step {q m m' s B : Nat} (hadd : m' ≤ m + s) (hfull : m > 0 → m ≥ q → m' ≤ m)
    (h0 : s ≤ B) (hq : m < q → m + s ≤ B) (hb : m ≤ B) : m' ≤ B := by
  by_cases hm : m = 0
  · rw [hm, Nat.zero_add] at hadd
    exact Nat.le_trans hadd h0
  · by_cases hge : m ≥ q
    · exact Nat.le_trans (hfull (Nat.pos_of_ne_zero hm) hge) hb
    · exact Nat.le_trans hadd (hq (Nat.lt_of_not_le hge))

/-- **C10 (MaxKeys, one Put).**  Whatever the sampling evicts: a fragment within its share stays within
    its share after any Put (plain, NX, XX, any expiry option, new key or overwrite). -/
theorem C10_maxkeys_step (ecfg : EvCfg) (owned : Nat) (cfg : Cfg) (r : Route) (reach : Reach) (c : Cluster) (dm : Bytes)
    (univ : List Key) (hnd : univ.Nodup) (k : Key) (hk : k ∈ univ) (v : Bytes) (pc : PutCfg) (now : Int) (victims : List Key)
    (hlru : ecfg.lru = true) (hown : owned > 0) (hmk : ecfg.maxKeys > 0)
    (hb : fragLen c r.owner dm univ ≤ share ecfg.maxKeys owned)
    (c' : Cluster) (res : Res)
    (h : lruPut ecfg owned cfg r reach c dm univ k v pc now victims = some (c', res)) :
    fragLen c' r.owner dm univ ≤ share ecfg.maxKeys owned := by
  obtain ⟨hle, hfull⟩ := lruPut_len hnd hk hlru hown h
  exact limit_step hle (fun h0 hq => hfull (.inl (by simp [keysFull, hmk, h0, hq])) h0)
    (Nat.le_max_left 1 _) (fun hq => Nat.le_trans hq (Nat.le_max_right 1 _)) hb

/-- a sequence of Puts on the keys of one partition, each with whatever the sampling evicted -/
def lruRun (ecfg : EvCfg) (owned : Nat) (cfg : Cfg) (r : Route) (reach : Reach) (dm : Bytes) (univ : List Key) :
    Cluster → List (Key × Bytes × PutCfg × Int × List Key) → Option Cluster
  | c, [] => some c
  | c, (k, v, pc, now, victims) :: rest =>
    match lruPut ecfg owned cfg r reach c dm univ k v pc now victims with
    | some (c', _) => lruRun ecfg owned cfg r reach dm univ c' rest
    | none => none

/-- **C10 (MaxKeys).**  After ANY sequence of Puts on the keys of a partition, with any eviction choices,
    the member's fragment holds at most its share of MaxKeys (at least one key). -/
theorem C10_maxkeys (ecfg : EvCfg) (owned : Nat) (cfg : Cfg) (r : Route) (reach : Reach) (dm : Bytes)
    (univ : List Key) (hnd : univ.Nodup) (hlru : ecfg.lru = true) (hown : owned > 0) (hmk : ecfg.maxKeys > 0)
    (ops : List (Key × Bytes × PutCfg × Int × List Key)) (hks : ∀ op ∈ ops, op.1 ∈ univ)
    (c c' : Cluster) (hb : fragLen c r.owner dm univ ≤ share ecfg.maxKeys owned)
    (h : lruRun ecfg owned cfg r reach dm univ c ops = some c') :
    fragLen c' r.owner dm univ ≤ share ecfg.maxKeys owned := by
  induction ops generalizing c with
  | nil => cases h; exact hb
  | cons op rest ih =>
    obtain ⟨k, v, pc, now, victims⟩ := op
    rw [lruRun] at h
    split at h
    · next c1 res hp =>
      exact ih (fun op hop => hks op (List.mem_cons_of_mem _ hop)) c1
        (C10_maxkeys_step ecfg owned cfg r reach c dm univ hnd k (hks _ List.mem_cons_self) v pc now victims hlru hown hmk hb c1 res hp) h
    · cases h

/-- the empty fragment is within every share -/
theorem fragLen_empty (m : Nat) (dm : Bytes) (univ : List Key) : fragLen Cluster.empty m dm univ = 0 := by
  unfold fragLen
  rw [List.length_eq_zero_iff, List.filter_eq_nil_iff]
  intro x _; simp [present, Cluster.copy, Cluster.empty]

/-- **C10 (member-wide bound).**  Fragment lengths within their shares add up to at most
    `owned × share`; when MaxKeys is at least the number of owned partitions that is at most MaxKeys. -/
theorem C10_member_bound (maxKeys owned : Nat) (lens : List Nat) (hlen : lens.length ≤ owned)
    (hb : ∀ l ∈ lens, l ≤ share maxKeys owned) :
    lens.sum ≤ owned * share maxKeys owned ∧ (owned ≤ maxKeys → owned > 0 → owned * share maxKeys owned ≤ maxKeys) := by
  refine ⟨?_, ?_⟩
  · -- term by term against the constant list
    have := sum_map_le (fun _ => share maxKeys owned) hb
    rw [List.map_id', List.map_const', List.sum_replicate_nat] at this
    exact Nat.le_trans this (Nat.mul_le_mul_right _ hlen)
  · intro h1 h2
    rw [share, Nat.max_eq_right ((Nat.one_le_div_iff h2).mpr h1)]
    exact Nat.mul_div_le maxKeys owned

/-- **C10 (no failure).**  A plain Put under the LRU policy in a healthy cluster has no failing outcome:
    whatever was evicted, the answer is OK … -/
theorem C10_put_ok (ecfg : EvCfg) (owned : Nat) (cfg : Cfg) (r : Route) (hh : Healthy cfg r) (c : Cluster) (dm : Bytes)
    (univ : List Key) (k : Key) (v : Bytes) (ttl : TTLOpt) (now : Int) (victims : List Key) (c' : Cluster) (res : Res)
    (h : lruPut ecfg owned cfg r allReach c dm univ k v { ttl := ttl } now victims = some (c', res)) :
    res = .ok ∧ c'.copy r.owner .prim dm k = some ⟨v, prepareTTL ttl cfg.dmTTL now, now⟩ := by
  obtain ⟨p1, p2, _⟩ := lruPut_healthy hh rfl rfl h
  exact ⟨p1, p2⟩

/-- … and there always is a possible run: the sampling finds a victim whenever the fragment is not empty -/
theorem evictOne_possible (cfg : Cfg) (r : Route) (c : Cluster) (dm : Bytes) (univ : List Key) :
    ∃ victims, (evictOne cfg r c dm univ victims).isSome = true := by
  unfold evictOne
  by_cases h0 : fragLen c r.owner dm univ = 0
  · exact ⟨[], by rw [if_pos h0]; rfl⟩
  · obtain ⟨v, hv⟩ := List.exists_mem_of_length_pos (Nat.pos_of_ne_zero h0)
    obtain ⟨hu, hp⟩ := List.mem_filter.mp hv
    exact ⟨[v], by simp [h0, hp, hu]⟩

/-- **C10 (fresh key readable).**  Right after its Put the key reads back, from a healthy cluster -/
theorem C10_just_written (ecfg : EvCfg) (owned : Nat) (cfg : Cfg) (r : Route) (hh : Healthy cfg r) (c : Cluster) (dm : Bytes)
    (univ : List Key) (k : Key) (v : Bytes) (now : Int) (victims : List Key) (c' : Cluster) (res : Res)
    (hd : cfg.dmTTL = 0)
    (h : lruPut ecfg owned cfg r allReach c dm univ k v {} now victims = some (c', res)) :
    ∀ later, ∃ w, (get cfg r allReach c' dm k later).2 = .val w ∧ w.val = v := by
  intro later
  obtain ⟨_, p2, p3⟩ := lruPut_healthy hh rfl rfl h
  rw [get_mirrored cfg later p3 hh.prev hh.rq, p2]
  -- no expiry was asked for and the DMap has no default: the entry never expires
  rw [live_eq_some.mpr ⟨rfl, by rw [hd, prepareTTL_none_zero]; rfl⟩]
  exact ⟨_, rfl, rfl⟩

/-- **C10 (MaxInuse, one Put).**  With entries of one size `s` (the new one included): if the fragment's
    bytes in use are within its share of MaxInuse plus one entry, they still are after any Put — and the
    entries still have one size. -/
theorem C10_maxinuse_step (ecfg : EvCfg) (owned : Nat) (cfg : Cfg) (r : Route) (reach : Reach) (c : Cluster) (dm : Bytes)
    (univ : List Key) (hnd : univ.Nodup) (k : Key) (hk : k ∈ univ) (v : Bytes) (pc : PutCfg) (now : Int) (victims : List Key)
    (hlru : ecfg.lru = true) (hown : owned > 0) (hmi : ecfg.maxInuse > 0) (s : Nat) (hspos : s > 0)
    (hs : entrySize k ⟨v, prepareTTL pc.ttl cfg.dmTTL now, now⟩ = s)
    (he : EqualSize c r.owner dm univ s)
    (hb : fragInuse c r.owner dm univ ≤ ecfg.maxInuse / owned + s)
    (c' : Cluster) (res : Res)
    (h : lruPut ecfg owned cfg r reach c dm univ k v pc now victims = some (c', res)) :
    fragInuse c' r.owner dm univ ≤ ecfg.maxInuse / owned + s ∧ EqualSize c' r.owner dm univ s := by
  have he' := lruPut_equalSize hs he h
  obtain ⟨hle, hfull⟩ := lruPut_len hnd hk hlru hown h
  refine ⟨?_, he'⟩
  -- in bytes: `s` per entry
  rw [inuse_eq he']
  rw [inuse_eq he] at hb hfull
  exact limit_step (m := s * fragLen c r.owner dm univ) (Nat.mul_le_mul_left s hle)
    (fun h0 hq => Nat.mul_le_mul_left s (hfull (.inr (by simp [inuseFull, hmi, h0, hq])) (Nat.pos_of_mul_pos_left h0)))
    (Nat.le_add_left s _) (fun hq => Nat.add_le_add_right (Nat.le_of_lt hq) s) hb

/-- **C10 (idle window).**  An entry last touched at `t` is idle exactly from the millisecond
    ⌊(t + MaxIdleDuration) / 1 ms⌋ on: before it, never; from it on, always. -/
theorem C10_idle_window (ecfg : EvCfg) (hi : ecfg.idle ≠ 0) (t now : Int) (hd : Int.tdiv (ecfg.idle + t) 1000000 ≠ 0) :
    (Int.tdiv now 1000000 < Int.tdiv (ecfg.idle + t) 1000000 → idleExpired ecfg t now = false) ∧
    (Int.tdiv (ecfg.idle + t) 1000000 ≤ Int.tdiv now 1000000 → idleExpired ecfg t now = true) := by
  simp only [idleExpired, bne_iff_ne.mpr hi, Bool.true_and]
  -- `hd`: a computed deadline of 0 would read as "no expiry"
  exact ⟨fun h => expired_eq_false.mpr (.inr h), fun h => expired_eq_true.mpr ⟨hd, h⟩⟩

theorem idle_off (ecfg : EvCfg) (hi : ecfg.idle = 0) (t now : Int) : idleExpired ecfg t now = false := by
  simp [idleExpired, hi]

def scanDeletes (ecfg : EvCfg) (route : Key → Route) (la : LA) (dm : Bytes) (now : Int) (c : Cluster) (k : Key) : Bool :=
  match c.copy (route k).owner .prim dm k with
  | some x => expired x.ttl now || idleExpired ecfg (la dm k) now
  | none => false

theorem scanDeletes_of_copy (ecfg : EvCfg) {route : Key → Route} (la : LA) {dm : Bytes} (now : Int) {c : Cluster} {k : Key}
    {x : Copy} (hc : c.copy (route k).owner .prim dm k = some x) :
    scanDeletes ecfg route la dm now c k = (expired x.ttl now || idleExpired ecfg (la dm k) now) := by
  simp only [scanDeletes, hc]

section
variable (ecfg : EvCfg) (cfg : Cfg) (route : Key → Route) (la : LA) (dm : Bytes) (now : Int) (c : Cluster)

theorem evScan_cons (a : Key) (rest : List Key) :
    (evScan ecfg cfg route la dm now c (a :: rest)).1 =
      (evScan ecfg cfg route la dm now (if scanDeletes ecfg route la dm now c a then del cfg (route a) c dm a else c) rest).1 := by
  rw [evScan, scanDeletes]
  cases c.copy (route a).owner .prim dm a with
  | none => rfl
  | some x => simp only; split <;> rfl

/-- a scan seen from one key: deleting other keys does not touch its copies, and after its own deletion the owner
    has no entry of it that a later visit could find -/
theorem evScan_copy (visited : List Key) (j : Nat) (kind : Kind) (k : Key) :
    (evScan ecfg cfg route la dm now c visited).1.copy j kind dm k =
      if k ∈ visited ∧ scanDeletes ecfg route la dm now c k = true then (del cfg (route k) c dm k).copy j kind dm k
      else c.copy j kind dm k := by
  induction visited generalizing c with
  | nil => exact (if_neg fun h => List.not_mem_nil h.1).symm
  | cons a rest ih =>
    rw [evScan_cons, ih]
    by_cases ha : k = a
    · subst ha
      cases hd : scanDeletes ecfg route la dm now c k with
      | false => simp [hd]
      | true =>
        have : scanDeletes ecfg route la dm now (del cfg (route k) c dm k) k = false := by
          rw [scanDeletes, copy_owner_del, if_pos rfl]
        simp [this]
    · simp only [List.mem_cons, ha, false_or]
      cases scanDeletes ecfg route la dm now c a with
      | false => rfl
      | true =>
        have hsame : ∀ j kind, (del cfg (route a) c dm a).copy j kind dm k = c.copy j kind dm k := by
          intro j kind; rw [copy_del, if_neg (fun h => ha h.2.2)]
        have hd : scanDeletes ecfg route la dm now (del cfg (route a) c dm a) k = scanDeletes ecfg route la dm now c k := by
          simp only [scanDeletes, hsame]
        have hdel : (del cfg (route k) (del cfg (route a) c dm a) dm k).copy j kind dm k =
            (del cfg (route k) c dm k).copy j kind dm k := by rw [copy_del, hsame, copy_del]
        rw [if_pos rfl, hd, hsame, hdel]

end

/-- a scan only ever deletes: an entry of another key is never created or changed by it -/
theorem evScan_frame (ecfg : EvCfg) (cfg : Cfg) (route : Key → Route) (la : LA) (dm : Bytes) (now : Int)
    (visited : List Key) (c : Cluster) (j : Nat) (kind : Kind) (k : Key) (hk : k ∉ visited) :
    (evScan ecfg cfg route la dm now c visited).1.copy j kind dm k = c.copy j kind dm k := by
  rw [evScan_copy, if_neg (fun h => hk h.1)]

/-- **C10 (idle: safe).**  An entry that is neither expired nor idle at the time of a background scan —
    in particular one read or written within the idle window — is still there afterwards, on the owner
    and on every backup, whatever else the scan visited and evicted. -/
theorem C10_idle_safe (ecfg : EvCfg) (cfg : Cfg) (route : Key → Route) (la : LA) (dm : Bytes) (now : Int)
    (visited : List Key) (c : Cluster) (k : Key) (x : Copy)
    (hc : c.copy (route k).owner .prim dm k = some x) (hexp : expired x.ttl now = false)
    (hidle : idleExpired ecfg (la dm k) now = false) (j : Nat) (kind : Kind) :
    (evScan ecfg cfg route la dm now c visited).1.copy j kind dm k = c.copy j kind dm k := by
  have : scanDeletes ecfg route la dm now c k = false := by
    rw [scanDeletes_of_copy ecfg la now hc, hexp, hidle]; rfl
  rw [evScan_copy, if_neg fun h => Bool.false_ne_true (this.symm.trans h.2)]

/-- **C10 (idle: evicted).**  An entry that a background scan visits while it is idle (or expired) is
    deleted from its owner and from every backup owner; nothing re-creates it during the scan. -/
theorem C10_scan_evicts (ecfg : EvCfg) (cfg : Cfg) (route : Key → Route) (la : LA) (dm : Bytes) (now : Int)
    (visited : List Key) (c : Cluster) (k : Key) (x : Copy) (hv : k ∈ visited)
    (hc : c.copy (route k).owner .prim dm k = some x)
    (hgone : expired x.ttl now = true ∨ idleExpired ecfg (la dm k) now = true) :
    (evScan ecfg cfg route la dm now c visited).1.copy (route k).owner .prim dm k = none ∧
    (cfg.R > 1 → ∀ b ∈ (route k).baks, (evScan ecfg cfg route la dm now c visited).1.copy b .bak dm k = none) := by
  have : scanDeletes ecfg route la dm now c k = true := by
    rw [scanDeletes_of_copy ecfg la now hc, Bool.or_eq_true]; exact hgone
  refine ⟨?_, fun hR b hb => ?_⟩
  · rw [evScan_copy, if_pos ⟨hv, this⟩, copy_owner_del, if_pos rfl]
  · rw [evScan_copy, if_pos ⟨hv, this⟩, copy_bak_del hR hb]

/-- the shapes the model follows, regenerated from the source on every run: one sampled entry is evicted per
    limit (an empty fragment is not an error), both limits are checked on one snapshot of the statistics,
    and the background scan deletes expired or idle entries on the whole cluster under the DMap's own name -/
theorem facts_tie : Facts.lru_evicts_one_sampled_entry = true ∧ Facts.lru_limits_checked_on_one_snapshot = true ∧
    Facts.eviction_scan_deletes_expired_or_idle_on_cluster = true ∧
    -- the `EvCfg` / default TTL a theorem is instantiated with is the DMap's own: its custom section when it has one
    Facts.dmap_config_custom_section_overrides_global = true := by decide

/-! Non-vacuity: MaxKeys = 2 over 1 owned partition, three Puts: the third evicts (here: the first key),
    the fragment holds 2 keys and the key just written is there. -/
def ecfg0 : EvCfg := { lru := true, maxKeys := 2 }
def univ0 : List Key := [[1], [2], [3]]
def run0 : Option Cluster :=
  lruRun ecfg0 1 cfg1 r1 allReach [100] univ0 Cluster.empty
    [([1], [9], {}, 10, []), ([2], [9], {}, 20, []), ([3], [9], {}, 30, [[1]])]
example : (run0.map (fun c => fragLen c 1 [100] univ0)) = some 2 := by decide
example : (run0.map (fun c => (c.copy 1 .prim [100] [3]).isSome)) = some true := by decide
example : (run0.map (fun c => (c.copy 0 .bak [100] [1]).isSome)) = some false := by decide
example : idleExpired { idle := 200000000 } 1000000000 1199999999 = false ∧ idleExpired { idle := 200000000 } 1000000000 1200000000 = true := by decide

end Olric.C10
