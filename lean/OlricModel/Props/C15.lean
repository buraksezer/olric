/-
  C15 — An operation means the same thing through every client path.
  Statements about Proto/Codec.lean composed with DMap/Model.lean, and about the client pipeline of Cluster/Pipeline.lean.
-/
import OlricModel.Proto.Codec
import OlricModel.Generated.Facts
import OlricModel.Proofs.PipelineProofs
namespace Olric.C15
open Olric Olric.DMap Olric.Codec

/-- **C15 (option codec).**  Every Put configuration the API can build — one of NX / XX or neither,
    with one of EX / PX / EXAT / PXAT or none, in any combination — is decoded by the receiving
    handler to exactly the configuration that was sent. -/
theorem C15_put_roundtrip (pc : PutCfg) (h : ApiCfg pc) : decodePut (encodePut pc) = pc := by
  obtain ⟨nx, xx, ttl⟩ := pc
  obtain ⟨hf, ht⟩ := h
  -- by flags and by kind of expiry, each configuration is printed (`encodePut`) and read back (`decodePut`); `ApiCfg` has
  -- excluded what would not come back: NX with XX (`hf`), a zero expiry, a PX / PXAT that is no whole number of
  -- milliseconds (`ht`)
  cases nx <;> cases xx <;> simp at hf <;> cases ttl <;> simp_all [encodePut, decodePut]

theorem atOwner_eq (p : Path) {pc : PutCfg} (h : ApiCfg pc) : atOwner p pc = pc := by
  unfold atOwner
  split
  · exact C15_put_roundtrip pc h
  · rfl

/-- **C15 (paths).**  Whatever the entry path, the partition owner executes the same Put: same result,
    same stored entry (value, expiry, timestamp), same copies on every member. -/
theorem C15_put_paths_equal (p q : Path) (pc : PutCfg) (h : ApiCfg pc) (cfg : Cfg) (r : Route) (reach : Reach)
    (c : Cluster) (dm : Bytes) (k : Key) (v : Bytes) (now : Int) :
    put cfg r reach c dm k v (atOwner p pc) now = put cfg r reach c dm k v (atOwner q pc) now := by
  rw [atOwner_eq p h, atOwner_eq q h]

/-- a conditional Put with an expiry keeps BOTH when forwarded (the lock-with-timeout shape) -/
theorem C15_nx_px_kept (d : Int) (hd : d ≠ 0) (hm : Int.tdiv d 1000000 * 1000000 = d) :
    decodePut (encodePut { nx := true, ttl := .px d }) = { nx := true, ttl := .px d } :=
  C15_put_roundtrip _ ⟨by simp, hd, hm⟩

/-- **C15 (multi-key Delete).**  Whatever order the per-owner groups are processed in, every named key
    is deleted on its owner exactly once and the count returned is the number of keys. -/
theorem C15_delete_all_groups (ownerOf : Key → Nat) (groupOrder : List Nat) (keys : List Key)
    (hcover : ∀ k ∈ keys, ownerOf k ∈ groupOrder) (hnd : groupOrder.Nodup) :
    (deleteKeys ownerOf groupOrder keys).2 = keys.length ∧
    ∀ k, k ∈ (deleteKeys ownerOf groupOrder keys).1 ↔ k ∈ keys := by
  refine ⟨rfl, ?_⟩
  intro k
  simp only [deleteKeys, List.mem_flatMap, List.mem_filter, beq_iff_eq]
  constructor
  · rintro ⟨m, _, hk, _⟩; exact hk
  · intro hk; exact ⟨ownerOf k, hcover k hk, hk, rfl⟩

/-- every deleted key is deleted once if the keys are distinct -/
theorem C15_delete_once (ownerOf : Key → Nat) (groupOrder : List Nat) (keys : List Key)
    (hnd : groupOrder.Nodup) (hk : keys.Nodup) : (deleteKeys ownerOf groupOrder keys).1.Nodup := by
  refine List.pairwise_flatMap.mpr ⟨fun m _ => hk.filter _, hnd.imp fun hne a ha b hb e => hne ?_⟩
  rw [← beq_iff_eq.mp (List.mem_filter.mp ha).2, ← beq_iff_eq.mp (List.mem_filter.mp hb).2, e]

/-- **C15 (pipeline, every queue).**  Whatever commands are queued, for whatever partitions, and whatever the
    partition owners do with one command (`step`): once `Exec` returned, the i-th future reads exactly the reply
    its command gets when the same commands are issued one at a time, each waiting for its answer. -/
theorem C15_pipeline_futures {σ κ ρ : Type} (step : σ → κ → σ × ρ) (st : Nat → σ) (q : List (Nat × κ)) :
    (Pipeline.futures [] q).map (Pipeline.futureResult step st q) = (Pipeline.seqRun step st q).2.map some := by
  simpa [Pipeline.execState_nil] using Pipeline.futures_read_seq step st [] q

/-- … and the stored state of every partition after `Exec` is the state the one-at-a-time run leaves. -/
theorem C15_pipeline_state {σ κ ρ : Type} (step : σ → κ → σ × ρ) (st : Nat → σ) (q : List (Nat × κ)) (p : Nat) :
    Pipeline.execState step st q p = (Pipeline.seqRun step st q).1 p := by
  induction q generalizing st with
  | nil => rfl
  | cons pc cs ih => rw [Pipeline.seqRun, Pipeline.execState_cons, ih]

/-- every future has a reply (no index out of range) -/
theorem C15_pipeline_every_future_answered {σ κ ρ : Type} (step : σ → κ → σ × ρ) (st : Nat → σ) (q : List (Nat × κ)) :
    ∀ r ∈ (Pipeline.futures [] q).map (Pipeline.futureResult step st q), r ≠ none := by
  rw [C15_pipeline_futures, List.forall_mem_map]; exact fun _ _ => nofun

/-- no two futures of a pipeline share a slot: a future can only ever read its own command's reply -/
theorem C15_pipeline_slots_distinct {κ : Type} (q : List (Nat × κ)) : (Pipeline.futures [] q).Nodup :=
  Pipeline.futures_nodup [] q

theorem length_filter_fst {β : Type} (l : List (Nat × β)) (p : Nat) :
    (l.filter (fun x => x.1 == p)).length = (l.map (·.1)).count p := by
  rw [List.count, List.countP_map, List.countP_eq_length_filter]; rfl

/-- the index mapping of `pipelineSlots` (the one the example below evaluates) is the one of `Pipeline.futures` -/
theorem pipelineSlots_eq_futures (partOf : Key → Nat) (keys : List Key) :
    pipelineSlots partOf keys = Pipeline.futures [] (keys.map (fun k => (partOf k, k))) := by
  -- from any accumulator: the slots handed out so far (`A`) and the queue (`q0`) name the same partitions in the same order
  suffices gen : ∀ (A : List (Nat × Nat)) (q0 : List (Nat × Key)), A.map (·.1) = q0.map (·.1) →
      (keys.foldl _ (A, A)).1 = A ++ Pipeline.futures q0 (keys.map (fun k => (partOf k, k))) from gen [] [] rfl
  induction keys with
  | nil => intro A q0 _; exact (List.append_nil A).symm
  | cons k ks ih =>
    intro A q0 hA
    simp only [List.foldl_cons, List.map_cons, Pipeline.futures, Pipeline.add]
    rw [ih _ (q0 ++ [(partOf k, k)]) (by simp [hA]), length_filter_fst, hA, ← length_filter_fst,
      List.append_assoc, Pipeline.batch, List.length_map]
    rfl

/-- what the client may do to a pipeline after a future was made -/
inductive LifeOp | exec | discard | close
  deriving DecidableEq, Repr

def lifeStep (l : Pipeline.Life) : LifeOp → Pipeline.Life
  | .exec => l.exec.1
  | .discard => l.discard.1
  | .close => l.close

theorem lifeStep_gen_mono (l : Pipeline.Life) (o : LifeOp) : l.gen ≤ (lifeStep l o).gen := by
  cases o
  · simp only [lifeStep, Pipeline.Life.exec]
    by_cases hc : l.closed = true
    · simp [hc]
    · by_cases he : l.executed = true <;> simp [hc, he]
  · simp only [lifeStep, Pipeline.Life.discard]
    by_cases hc : l.closed = true <;> simp [hc]
  · simp [lifeStep, Pipeline.Life.close]

/-- a future of an earlier generation answers "closed" whatever happens to the pipeline afterwards -/
theorem C15_pipeline_old_futures_closed (l : Pipeline.Life) (g : Nat) (hg : g < l.gen) (ops : List LifeOp) :
    (ops.foldl lifeStep l).read g = some .closed := by
  have : g < (ops.foldl lifeStep l).gen :=
    List.foldlRecOn ops lifeStep hg fun l h o _ => Nat.lt_of_lt_of_le h (lifeStep_gen_mono l o)
  simp [Pipeline.Life.read, Pipeline.Life.futClosed, Nat.ne_of_lt this]

/-- **C15 (pipeline life cycle).**  A future of an open, not yet executed pipeline answers "not ready"; `Exec` runs
    once; a `Discard` closes the futures made before it and starts a generation whose futures are not ready; a closed
    pipeline refuses `Exec` and `Discard`. -/
theorem C15_pipeline_lifecycle (l : Pipeline.Life) :
    (l.closed = false → l.executed = false → l.read l.gen = some .notReady) ∧
    (l.closed = false → l.executed = false → l.exec.2 = none ∧ l.exec.1.read l.gen = none ∧ l.exec.1.exec.2 = some .executed) ∧
    (l.closed = false → l.discard.2 = none ∧ l.discard.1.read l.gen = some .closed ∧
        l.discard.1.read l.discard.1.gen = some .notReady) ∧
    (l.close.exec.2 = some .closed ∧ l.close.discard.2 = some .closed ∧ l.close.read l.gen = some .closed) := by
  refine ⟨?_, ?_, ?_, ?_⟩
  · intro hc he; simp [Pipeline.Life.read, Pipeline.Life.futClosed, hc, he]
  · intro hc he; simp [Pipeline.Life.read, Pipeline.Life.futClosed, Pipeline.Life.exec, hc, he]
  · intro hc; simp [Pipeline.Life.read, Pipeline.Life.futClosed, Pipeline.Life.discard, hc]
  · simp [Pipeline.Life.read, Pipeline.Life.futClosed, Pipeline.Life.exec, Pipeline.Life.discard, Pipeline.Life.close]

/-- **C15 (pipeline).**  The i-th command queued for a partition gets slot i of that partition:
    slots of one partition are 0,1,2,… in queueing order, so every future reads its own reply. -/
theorem C15_pipeline_slots_example :
    pipelineSlots (fun k => k.length % 2) [[1], [1, 2], [3], [4, 5], [6]] = [(1, 0), (0, 0), (1, 1), (0, 1), (1, 2)] := by
  decide

theorem facts_tie :
    Facts.put_handler_options_independent = true ∧ Facts.expire_forwarded_as_pexpire = true ∧
    Facts.del_forward_returns_early = false ∧ Facts.pipeline_future_reads_its_partition_slot = true := by decide

example : ApiCfg { nx := true, ttl := .px 200000000 } := by simp [ApiCfg]
example : decodePut (encodePut { xx := true, ttl := .exat 1700000000000000000 }) = { xx := true, ttl := .exat 1700000000000000000 } := by decide

/-- a closed run of the pipeline model: two partitions, counters; futures read 1, 10, 3 as the one-at-a-time run answers -/
example : (Pipeline.futures [] [(0, 1), (1, 10), (0, 2)]).map
      (Pipeline.futureResult (fun (s : Nat) (c : Nat) => (s + c, s + c)) (fun _ => 0) [(0, 1), (1, 10), (0, 2)])
    = [some 1, some 10, some 3] := by decide
example : Pipeline.futures [] [(0, 1), (1, 10), (0, 2)] = [(0, 0), (1, 0), (0, 1)] := by decide

end Olric.C15
