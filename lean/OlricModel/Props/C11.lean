/-
  C11 — The storage engine behaves as a map under compaction and table transfer.

  The property statements; helper lemmas about the store are in OlricModel/Proofs.  Everything is about
  the executable model OlricModel/Store/Model.lean, which the `kv` correspondence stream ties to
  internal/kvstore on every run.
-/
import OlricModel.Proofs.KVXfer
import OlricModel.Proofs.KVTerm
import OlricModel.Proofs.KVInv
import OlricModel.Generated.Facts
namespace Olric.C11
open Olric KV

/-- the abstract map: hkey ↦ (key, ttl, timestamp, value) -/
abbrev Map := Nat → Option Core

def upd (m : Map) (h : Nat) (v : Option Core) : Map := fun x => if x = h then v else m x

/-- operations of one store, with every argument the code takes (clock and Go's map-iteration
    order included as explicit inputs) -/
inductive Op
  | put (h : Nat) (r : Rec) (now : Int)
  | putRaw (h : Nat) (r : Rec)
  | get (h : Nat) (now : Int)
  | del (h : Nat)
  | ttl (h : Nat) (ttl ts now : Int)
  | compact (now : Int) (order : List Nat)

/-- what the caller observes -/
inductive Out
  | res (r : Res)
  | val (v : Option Core)
  | found (b : Bool)
  | done (b : Bool)
  deriving DecidableEq

/-- raw entries are byte strings produced by Entry.Encode: their key length fits one byte -/
def Op.ok : Op → Prop
  | .putRaw _ r => r.key.length < 256
  | _ => True

def step (k : KV) : Op → KV × Out
  | .put h r now => let x := k.put h r now; (x.1, .res x.2)
  | .putRaw h r => let x := k.putRaw h r; (x.1, .res x.2)
  | .get h now => let x := k.get h now; (x.2, .val (x.1.map Rec.core))
  | .del h => (k.delete h, .res .ok)
  | .ttl h ttl ts now => let x := k.updateTTL h ttl ts now; (x.1, .found x.2)
  | .compact now order => let x := k.compaction now order; (x.1, .done x.2)

/-- the specification: a plain map.  `T` is the table size (entries of T bytes or more are refused). -/
def specStep (T : Nat) (m : Map) : Op → Map
  | .put h r _ => if r.size ≥ T ∨ r.key.length ≥ 256 then m else upd m h (some r.core)
  | .putRaw h r => if r.size ≥ T then m else upd m h (some r.core)
  | .get _ _ => m
  | .del h => upd m h none
  | .ttl h ttl ts _ => upd m h ((m h).map (fun c => { c with ttl := ttl, ts := ts }))
  | .compact _ _ => m

def specOut (T : Nat) (m : Map) : Op → Out → Prop
  | .put _ r _, o => o = .res (if r.size ≥ T then .entryTooLarge else if r.key.length ≥ 256 then .keyTooLarge else .ok)
  | .putRaw _ r, o => o = .res (if r.size ≥ T then .entryTooLarge else .ok)
  | .get h _, o => o = .val (m h)
  | .del _, o => o = .res .ok
  | .ttl h _ _ _, o => o = .found (m h).isSome
  | .compact _ _, o => ∃ b, o = .done b          -- contents never depend on it

/-- One step: the invariant is kept, the abstract contents change exactly as the map says, and the
    caller sees exactly what the map would answer.  In particular `Put` never diverges (the Go retry
    loop terminates) and compaction never changes the contents. -/
theorem C11_step (k : KV) (w : k.WF) (op : Op) (hop : op.ok) :
    (step k op).1.WF ∧ (step k op).1.tableSize = k.tableSize ∧
    (∀ h, (step k op).1.absV h = specStep k.tableSize k.absV op h) ∧
    specOut k.tableSize k.absV op (step k op).2 := by
  -- `absV_set` carries the lookup equation of each operation over to `absV`; `upd` unfolds to its `if`
  cases op with
  | put h r now =>
    obtain ⟨pw, ps, pc, pl⟩ := put_spec k w h r now
    refine ⟨pw, ps, fun x => ?_, congrArg Out.res pc⟩
    by_cases hc : r.size ≥ k.tableSize ∨ r.key.length ≥ 256
    · rw [specStep, if_pos hc, step, absV, pl x, if_pos hc]; rfl
    · rw [specStep, if_neg hc]
      exact absV_set (fun y => (pl y).trans (if_neg hc)) x
  | putRaw h r =>
    by_cases hb : r.size ≥ k.tableSize
    · rw [step, putRaw_big h hb, specStep, specOut, if_pos hb, if_pos hb]
      exact ⟨w, rfl, fun _ => rfl, rfl⟩
    · obtain ⟨pw, ps, pc, pl⟩ := putRaw_spec k w h r ⟨Nat.not_le.mp hb, hop⟩
      rw [specStep, specOut, if_neg hb, if_neg hb]
      exact ⟨pw, ps, absV_set pl, congrArg Out.res pc⟩
  | get h now =>
    obtain ⟨gw, gs, g1, gl⟩ := get_spec k w h now
    -- the record under `h` changes in lastAccess only
    exact ⟨gw, gs, absV_of_same_core gl (Option.map_map ..),
      congrArg (fun v : Option Rec => Out.val (v.map Rec.core)) g1⟩
  | del h =>
    obtain ⟨dw, ds, dl⟩ := delete_spec k w h
    exact ⟨dw, ds, absV_set dl, rfl⟩
  | ttl h ttl ts now =>
    obtain ⟨uw, us, u1, ul⟩ := updateTTL_spec k w h ttl ts now
    refine ⟨uw, us, fun x => ?_, (congrArg Out.found u1).trans ?_⟩
    · -- both sides map over `k.lookup h`, by functions that agree once `Rec.core` is unfolded
      rw [step, absV_set ul x, specStep, upd, absV, absV, Option.map_map, Option.map_map]; rfl
    · rw [absV, Option.isSome_map]
  | compact now order =>
    obtain ⟨cw, cs, ca⟩ := compaction_spec k w now order
    exact ⟨cw, cs, ca, ⟨_, rfl⟩⟩

def run (k : KV) : List Op → KV × List Out
  | [] => (k, [])
  | op :: ops => let x := step k op; let y := run x.1 ops; (y.1, x.2 :: y.2)

def specRun (T : Nat) (m : Map) : List Op → Map
  | [] => m
  | op :: ops => specRun T (specStep T m op) ops

/-- the observations of a run agree with the map specification, one by one -/
def specOuts (T : Nat) (m : Map) : List Op → List Out → Prop
  | [], [] => True
  | op :: ops, o :: os => specOut T m op o ∧ specOuts T (specStep T m op) ops os
  | _, _ => False

/-- **C11 (refinement).**  For every operation sequence, of any length, with inserts, raw inserts,
    reads, deletes, expiry updates and compaction steps interleaved in any way and with any entry
    sizes: the store stays well-formed (in particular a key has at most one live version), every
    answer is the answer of a plain map, and the final contents are those of the plain map. -/
theorem C11_refines (ops : List Op) (hok : ∀ op ∈ ops, op.ok) (k : KV) (w : k.WF) :
    (run k ops).1.WF ∧
    (∀ h, (run k ops).1.absV h = specRun k.tableSize k.absV ops h) ∧
    specOuts k.tableSize k.absV ops (run k ops).2 := by
  induction ops generalizing k with
  | nil => exact ⟨w, fun _ => rfl, trivial⟩
  | cons op ops ih =>
    obtain ⟨w1, s1, a1, o1⟩ := C11_step k w op (hok op List.mem_cons_self)
    obtain ⟨w2, a2, o2⟩ := ih (fun x hx => hok x (List.mem_cons_of_mem _ hx)) (step k op).1 w1
    -- the contents after the step equal the specified ones as functions: the rest of the run starts there
    have e : (step k op).1.absV = specStep k.tableSize k.absV op := funext a1
    rw [s1, e] at a2 o2
    exact ⟨w2, a2, o1, o2⟩

/-- the same from a freshly forked fragment store: the map starts empty -/
theorem C11_refines_fork (size : Nat) (idle : Int) (ops : List Op) (hok : ∀ op ∈ ops, op.ok) :
    (run (KV.fork size idle) ops).1.WF ∧
    (∀ h, (run (KV.fork size idle) ops).1.absV h = specRun size (fun _ => none) ops h) ∧
    specOuts size (fun _ => none) ops (run (KV.fork size idle) ops).2 := by
  have h0 : (KV.fork size idle).absV = fun _ => none := funext fun h => by rw [absV, lookup_fork]; rfl
  have := C11_refines ops hok (KV.fork size idle) (fork_wf size idle)
  rwa [h0] at this

/-- **C11 (count and iteration).**  In every reachable state `Stats.Length` is the number of present
    keys and `Range` visits each present key exactly once with its stored record. -/
theorem C11_length_range (k : KV) (w : k.WF) :
    k.stats.length = k.rangeAll.length ∧ (k.rangeAll.map (·.1)).Nodup ∧
    ∀ h r, (h, r) ∈ k.rangeAll ↔ k.lookup h = some r :=
  ⟨stats_length k, rangeAll_spec k w⟩

/-- **C11 (errors).**  The only failures of an insert are the two documented ones, decided by sizes
    alone, and a failed insert changes no lookup; `Put` always returns (no table-allocation loop). -/
theorem C11_errors (k : KV) (w : k.WF) (h : Nat) (r : Rec) (now : Int) :
    (k.put h r now).2 ≠ .diverge ∧
    ((k.put h r now).2 = .entryTooLarge ↔ r.size ≥ k.tableSize) ∧
    ((k.put h r now).2 = .keyTooLarge ↔ (r.size < k.tableSize ∧ r.key.length ≥ 256)) ∧
    ((k.put h r now).2 ≠ .ok → ∀ h', (k.put h r now).1.lookup h' = k.lookup h') := by
  obtain ⟨_, _, pc, pl⟩ := put_spec k w h r now
  rw [pc]
  by_cases hb : r.size ≥ k.tableSize
  · rw [if_pos hb]
    exact ⟨by simp, by simp [hb], by simp [Nat.not_lt.mpr hb],
      fun _ h' => by rw [pl h', if_pos (Or.inl hb)]⟩
  · rw [if_neg hb]
    by_cases hk : r.key.length ≥ 256
    · rw [if_pos hk]
      exact ⟨by simp, by simp [hb], by simp [hk, Nat.lt_of_not_le hb],
        fun _ h' => by rw [pl h', if_pos (Or.inr hk)]⟩
    · rw [if_neg hk]
      exact ⟨by simp, by simp [hb], by simp [hk], fun hne => absurd rfl hne⟩

/-- **C11 (transfer).**  Export+Drop removes from the source exactly the keys of one table; Import
    gives each of them, in the destination, the last-write-wins winner of the destination's and the
    incoming version (incoming wins ties), and touches no other key.  Holds for every Range order
    that lists each exported key once. -/
theorem C11_transfer (src src' dst : KV) (t : Table) (ws : src.WF) (wd : dst.WF)
    (hT : dst.tableSize = src.tableSize) (he : src.exportDrop = some (t, src'))
    (order : List Nat) (now : Int) (hnd : order.Nodup) (hcov : ∀ s ∈ t.slots, s.hk ∈ order) :
    let dst' := dst.importTable t order now
    src'.WF ∧ dst'.WF ∧
    (∀ h s, t.find h = some s →
        src.lookup h = some s.r ∧ src'.lookup h = none ∧ dst'.lookup h = lww (dst.lookup h) s.r now) ∧
    (∀ h, t.find h = none → src'.lookup h = src.lookup h ∧ dst'.lookup h = dst.lookup h) := by
  intro dst'
  obtain ⟨w', _, htm, e1, e2⟩ := exportDrop_spec src src' t ws he
  obtain ⟨wd', l⟩ := importTable_key dst wd t order now fun s hs => hT ▸ ws.fits t htm s hs
  exact ⟨w', wd', fun h s hs => ⟨(e1 h s hs).1, (e1 h s hs).2, by
      rw [l, hs]; exact if_pos (Table.find_hk hs ▸ hcov s (List.mem_of_find?_eq_some hs))⟩,
    fun h hn => ⟨e2 h hn, by rw [l, hn]⟩⟩

/-- **C11 (compaction completes).**  From every reachable store (any table size > 0), calling
    `Compaction` again and again — whatever order Go's map iteration hands to each call (`ord`, any
    enumeration of the drained table's keys without repetition) and whatever the clock reads — answers
    `done` within `2·(stored records) + (retired tables) + 3` calls; the store it leaves has the same
    contents, keeps the invariant, and has no garbage-heavy table behind the head.  The bound comes from
    the measure `KV.mu` (Proofs/KVTerm.lean), which every not-done call strictly lowers
    (`KV.compaction_mu`): every record moved leaves a table that carries garbage for the head, and
    when the head fills up the tables that replace it carry none. -/
theorem C11_compaction_terminates (ord : KV → List Nat) (now : Nat → Int)
    (hord : ∀ k : KV, k.WF → KV.ValidOrder k (ord k)) (k : KV) (w : k.WF) (hts : 0 < k.tableSize) :
    let n := 2 * k.stats.length + k.old.length + 3
    (KV.compactLoop ord now n k).2 = true ∧ (KV.compactLoop ord now n k).1.WF ∧
    (∀ h, (KV.compactLoop ord now n k).1.absV h = k.absV h) ∧
    (∀ t ∈ (KV.compactLoop ord now n k).1.old, needsCompaction t = false) := by
  intro n
  have hb := KV.mu_le k
  obtain ⟨a, b, _, d, e⟩ := KV.compactLoop_terminates ord now hord n k w hts (Nat.lt_succ_of_le hb)
  exact ⟨a, b, d, e⟩

/-- one call that is not the last one makes progress on the measure -/
theorem C11_compaction_progress (k : KV) (w : k.WF) (hts : 0 < k.tableSize) (now : Int) (order : List Nat)
    (hv : KV.ValidOrder k order) (hnd : (k.compaction now order).2 = false) :
    KV.mu (k.compaction now order).1 < KV.mu k :=
  KV.compaction_mu k w hts now order hv hnd

/-- the hypothesis on `ord` is met by the table's own key list (what `Range` enumerates) -/
theorem C11_range_order_valid (k : KV) (w : k.WF) : KV.ValidOrder k (KV.rangeOrder k) := KV.rangeOrder_valid k w

/-- what an invariant may ask of the record an operation writes -/
def Op.writes (Q : Rec → Prop) : Op → Prop
  | .put _ r now => Q { r with la := now }
  | .putRaw _ r => Q r
  | _ => True

theorem step_invariant {Q : Rec → Prop} {P : KV → Prop} (c : Invariant Q P) (k : KV) (w : k.WF) (p : P k) (op : Op)
    (hq : op.writes Q) : P (step k op).1 := by
  cases op with
  | put h r now => exact c.put k w p h r now hq
  | putRaw h r => exact c.putRaw k w p h r hq
  | get h now => exact c.get k w p h now
  | del h => exact c.delete k w p h
  | ttl h ttl ts now => exact c.updateTTL k w p h ttl ts now
  | compact now order => exact c.compaction k w p now order

theorem run_invariant {P : KV → Prop} (ops : List Op) (hok : ∀ op ∈ ops, op.ok)
    (hstep : ∀ op ∈ ops, ∀ k : KV, k.WF → P k → P (step k op).1) (k : KV) (w : k.WF) (p : P k) :
    P (run k ops).1 := by
  induction ops generalizing k with
  | nil => exact p
  | cons op ops ih =>
    exact ih (fun x hx => hok x (List.mem_cons_of_mem _ hx)) (fun x hx => hstep x (List.mem_cons_of_mem _ hx)) _
      (C11_step k w op (hok op List.mem_cons_self)).1 (hstep op List.mem_cons_self k w p)

/-- **Tie to the source (regenerated on every run).**  The constants and code shapes the model encodes
    are the ones the extractor finds in internal/kvstore today: record overhead 29, key limit 256,
    garbage ratio 2/5, Put/PutRaw delete the superseded slot, Compaction skips the read-write table,
    the sweep does not unregister by the (reset) coefficient. -/
theorem facts_tie :
    (∀ r : Rec, r.size = Facts.metadataLength + r.key.length + r.val.length) ∧
    Facts.maxKeyLength = 256 ∧
    (∀ t : Table, needsCompaction t = ((Facts.compaction_takes_tables_without_live_entries && t.inuse == 0 && decide (t.garbage > 0)) ||
        decide (t.garbage * Facts.maxGarbageRatioDen ≥ t.alloc * Facts.maxGarbageRatioNum))) ∧
    Facts.table_put_deletes_existing = true ∧ Facts.table_putraw_deletes_existing = true ∧
    Facts.compaction_skips_readwrite = true ∧ Facts.sweep_unregisters_by_coefficient = false ∧
    Facts.table_pack_is_checked_before_a_table_is_built = true := by
  refine ⟨fun r => by simp [Rec.size, Facts.metadataLength], rfl, ?_, rfl, rfl, rfl, rfl, rfl⟩
  intro t
  -- 2/5 = 40/100
  refine congrArg (t.inuse == 0 && decide (t.garbage > 0) || ·) (decide_eq_decide.mpr ?_)
  show t.alloc * 2 ≤ t.garbage * 5 ↔ t.alloc * 40 ≤ t.garbage * 100
  rw [← Nat.mul_le_mul_right_iff (by decide : 0 < 20), Nat.mul_assoc, Nat.mul_assoc]

/-! Non-vacuity: the hypotheses are met by concrete, non-trivial stores. -/

def recA : Rec := { key := [97], ttl := 0, ts := 5, la := 0, val := [1, 2, 3] }
def recB : Rec := { key := [98], ttl := 9, ts := 7, la := 0, val := List.replicate 150 7 }

/-- a 256-byte-table store after inserts that spill into a second table, an overwrite across
    tables, a delete and a compaction step -/
def demoOps : List Op :=
  [.put 1 recA 10, .put 2 recB 11, .put 3 recB 12, .put 2 recA 13, .del 3, .compact 14 [2, 3], .get 2 15]

theorem demoOps_ok : ∀ op ∈ demoOps, op.ok := by
  intro op hop
  simp only [demoOps, List.mem_cons, List.mem_nil_iff, or_false] at hop
  rcases hop with rfl | rfl | rfl | rfl | rfl | rfl | rfl <;> trivial

example : (run (KV.fork 256 1000) demoOps).1.WF := (C11_refines_fork 256 1000 demoOps demoOps_ok).1
set_option maxRecDepth 100000 in
example : ((run (KV.fork 256 1000) demoOps).1.tables.length = 2) := by decide
set_option maxRecDepth 100000 in
example : (run (KV.fork 256 1000) demoOps).2.getLast? = some (.val (some recA.core)) := by decide

/-- a store with a garbage-heavy retired table: three inserts spill into a second table, then an
    overwrite turns most of the first table into garbage.  The loop needs two calls (one drains the
    table, the second answers done) and keeps the contents. -/
def dirtyOps : List Op :=
  [.put 1 recB 10, .put 2 recA 11, .put 3 recB 12, .put 1 recA 13]
set_option maxRecDepth 100000 in
example : KV.mu (run (KV.fork 256 1000) dirtyOps).1 = 2 := by decide
set_option maxRecDepth 100000 in
example : (KV.compactLoop KV.rangeOrder (fun _ => 20) 1 (run (KV.fork 256 1000) dirtyOps).1).2 = false := by decide
set_option maxRecDepth 100000 in
example : (KV.compactLoop KV.rangeOrder (fun _ => 20) 2 (run (KV.fork 256 1000) dirtyOps).1).2 = true := by decide

end Olric.C11
