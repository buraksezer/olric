/-
  C13 — All members agree on a valid, balanced routing table.
  Statements about Cluster/Routing.lean: for EVERY previous owners list, member list, key-count report
  and ring answer, what one routing-table computation of the coordinator produces.
-/
import OlricModel.Proofs.RoutingLemmas
import OlricModel.Generated.Facts
namespace Olric.C13
open Olric Olric.Routing

/-- **C13 (primary owners).**  For every previous owners list, member list, count report and ring owner:
    the computed owners list ends with the ring's owner (THE primary owner — exactly one, last);
    every other listed owner was listed before, is still that live member (same name, same id: a
    departed or re-joined member is never listed) and did not report zero keys (it still holds data, or
    could not be asked); ids stay distinct. -/
theorem C13_primary (live : List Mem) (count : Mem → Option Nat) (owners : List Mem) (ro : Mem) :
    (distributePrimary live count owners ro).getLast? = some ro ∧
    (∀ o ∈ distributePrimary live count owners ro,
        o = ro ∨ (o ∈ owners ∧ alive live o = true ∧ count o ≠ some 0)) ∧
    ((owners.map (·.id)).Nodup → ((distributePrimary live count owners ro).map (·.id)).Nodup) := by
  rw [distributePrimary_eq]
  exact ⟨by rw [moveToEnd_eq, List.getLast?_concat], fun o ho => (mem_moveToEnd ho).imp_right mem_prune.mp,
    fun hnd => nodup_moveToEnd ro (nodup_prune live count hnd)⟩

/-- every listed primary owner is a live member whenever the ring's owner is one -/
theorem C13_primary_all_live (live : List Mem) (count : Mem → Option Nat) (owners : List Mem) (ro : Mem)
    (hro : alive live ro = true) : ∀ o ∈ distributePrimary live count owners ro, alive live o = true :=
  fun o ho => ((C13_primary live count owners ro).2.1 o ho).elim (· ▸ hro) (·.2.1)

/-- **C13 (backup owners).**  For every previous backup list (distinct ids), member list, count report
    and ring answer `cs` (the primary first, distinct ids): the computed list is
      (previous backups that are still live, still hold data, and are not among the new ones) ++ cs.tail
    — the ring's replica owners, in the ring's order, are the LAST entries (the current backup owners),
    and every further entry is a live member that still holds data (or could not be asked). -/
theorem C13_backups (live : List Mem) (count : Mem → Option Nat) (owners : List Mem) (cs : List Mem)
    (ho : (owners.map (·.id)).Nodup) (hcs : (cs.tail.map (·.id)).Nodup) (hne : owners ≠ []) :
    distributeBackups live count owners (some cs) =
      (pruneEmpty count (pruneDead live owners)).filter (fun b => !cs.tail.any (fun n => n.id == b.id)) ++ cs.tail :=
  distributeBackups_eq live count ho hcs

theorem C13_backups_first_run (live : List Mem) (count : Mem → Option Nat) (cs : List Mem) :
    distributeBackups live count [] (some cs) = cs.tail := by
  simp [distributeBackups]

/-- every listed backup owner is a ring replica owner or a still-live previous one holding data -/
theorem C13_backups_members (live : List Mem) (count : Mem → Option Nat) (owners : List Mem) (cs : List Mem)
    (ho : (owners.map (·.id)).Nodup) (hcs : (cs.tail.map (·.id)).Nodup) :
    ∀ o ∈ distributeBackups live count owners (some cs),
      o ∈ cs.tail ∨ (o ∈ owners ∧ alive live o = true ∧ count o ≠ some 0) := by
  intro o hm
  rw [distributeBackups_eq live count ho hcs, List.mem_append] at hm
  exact hm.symm.imp_right fun h => mem_prune.mp (List.mem_filter.mp h).1

/-- what the ring is assumed to answer (buraksezer/consistent, tied by the correspondence stream):
    the partition owner first, then distinct other members, all of them current members, as many as
    min(ReplicaCount, members) -/
structure RingOK (live : List Mem) (R : Nat) (ro : Mem) (cs : List Mem) : Prop where
  head : cs.head? = some ro
  nodup : (cs.map (·.id)).Nodup
  allLive : ∀ c ∈ cs, alive live c = true
  len : cs.length = min R live.length

/-- **C13 (current backup owners).**  They are min(ReplicaCount, members) − 1 distinct live members other
    than the primary owner; and with them every listed backup owner is a live member. -/
theorem C13_backups_valid (live : List Mem) (R : Nat) (count : Mem → Option Nat) (owners : List Mem) (ro : Mem) (cs : List Mem)
    (hr : RingOK live R ro cs) (ho : (owners.map (·.id)).Nodup) :
    cs.tail.length = min R live.length - 1 ∧ (cs.tail.map (·.id)).Nodup ∧ (∀ b ∈ cs.tail, b.id ≠ ro.id ∧ alive live b = true) ∧
    (∀ o ∈ distributeBackups live count owners (some cs), alive live o = true) ∧
    (∃ pre, distributeBackups live count owners (some cs) = pre ++ cs.tail) := by
  obtain ⟨r, rfl⟩ := List.head?_eq_some_iff.mp hr.head
  have hn := List.nodup_cons.mp hr.nodup
  have hlive : ∀ b ∈ r, alive live b = true := fun b hb => hr.allLive b (List.mem_cons_of_mem _ hb)
  exact ⟨by rw [List.length_tail, hr.len], hn.2,
    fun b hb => ⟨fun e => hn.1 (List.mem_map.mpr ⟨b, hb, e⟩), hlive b hb⟩,
    fun o hm => (C13_backups_members live count owners (ro :: r) ho hn.2 o hm).elim (hlive o) (·.2.1),
    ⟨_, distributeBackups_eq live count ho hn.2⟩⟩

/-- a member that reports left-over data is listed afterwards (in front: it is a previous owner), and
    nobody is dropped -/
theorem C13_leftover (owners : List Mem) (m : Mem) :
    (∃ o ∈ ensureOwnership owners m, o.id = m.id) ∧ (∀ o ∈ owners, o ∈ ensureOwnership owners m) ∧
    (ensureOwnership owners m).getLast? = (if owners = [] then some m else owners.getLast?) := by
  unfold ensureOwnership
  split
  · obtain ⟨o, ho, e⟩ := List.any_eq_true.mp ‹_›
    exact ⟨⟨o, ho, by simpa using e⟩, fun o ho => ho, (if_neg (List.ne_nil_of_mem ho)).symm⟩
  · refine ⟨⟨m, List.mem_cons_self, rfl⟩, fun o ho => List.mem_cons_of_mem _ ho, ?_⟩
    cases owners with
    | nil => rfl
    | cons a r => simp [List.getLast?_cons_cons]

/-- a push installs the coordinator's table `t` on every member it reaches -/
def push (tables : Nat → List Row) (reached : List Nat) (t : List Row) : Nat → List Row :=
  fun m => if m ∈ reached then t else tables m

/-- **C13 (agreement).**  After a push that reached every member, all members hold the same table. -/
theorem C13_agreement (tables : Nat → List Row) (members : List Nat) (t : List Row) :
    ∀ m ∈ members, ∀ n ∈ members, push tables members t m = push tables members t n := by
  intro m hm n hn; simp [push, hm, hn]

/-- **C13 (coordinator).**  The coordinator is a current member with the smallest birthdate (`oldest_some`); when
    birthdates are distinct every member that sees the same member set — in whatever order its
    membership layer lists it — names the same coordinator. -/
theorem C13_coordinator (l1 l2 : List (Mem × Int)) (hsame : ∀ x, x ∈ l1 ↔ x ∈ l2)
    (hd : ∀ x ∈ l1, ∀ y ∈ l1, x.2 = y.2 → x = y) : coordinator l1 = coordinator l2 := by
  unfold coordinator
  -- the two lists have the same members, so `oldest_iff` says the same of both
  refine congrArg _ (Option.ext fun x => ?_)
  rw [oldest_iff hd, oldest_iff fun x hx y hy => hd x ((hsame x).mpr hx) y ((hsame y).mpr hy)]
  simp only [hsame]

/-- **C13 (load bound).**  In the ring's bounded-load assignment no member ever gets more partitions than
    the bound: a partition goes only to a member whose load is below it. -/
theorem C13_load_bound (avg : Nat) (walks : List (List Nat)) (loads loads' : Nat → Nat)
    (h0 : ∀ m, loads m ≤ avg) (h : assignAll avg walks loads = some loads') : ∀ m, loads' m ≤ avg := by
  induction walks generalizing loads with
  | nil => cases h; exact h0
  | cons w rest ih =>
    simp only [assignAll] at h
    split at h
    · rename_i m ha
      refine ih _ (fun x => ?_) h
      split
      · rename_i e
        simpa [e] using List.find?_some ha
      · exact h0 x
    · cases h

/-- the bound as the library computes it is zero when there are more members than partitions: no
    partition can be assigned and the library panics (finding F34) -/
example : averageLoad 3 4 125 100 = 0 ∧ assignAll 0 [[0, 1, 2, 3]] (fun _ => 0) = none := by decide
/-- and with partitions ≥ members there always is room: members × bound ≥ partitions -/
theorem C13_room (P N : Nat) (hN : N > 0) (hPN : N ≤ P) : N * averageLoad P N 125 100 ≥ P :=
  averageLoad_room hN hPN (by decide) (by decide)

theorem distributePrimary_keeps_holder (live : List Mem) (count : Mem → Option Nat) (owners : List Mem) (ro o : Mem)
    (ho : o ∈ owners) (hl : alive live o = true) (hc : count o ≠ some 0) :
    ∃ o' ∈ distributePrimary live count owners ro, o'.id = o.id := by
  rw [distributePrimary_eq]
  exact moveToEnd_keeps_id ro ⟨o, mem_prune.mpr ⟨ho, hl, hc⟩, rfl⟩

/-- the same for the backup owners; the lists need not have distinct ids for this -/
theorem distributeBackups_keeps_holder (live : List Mem) (count : Mem → Option Nat) (owners cs : List Mem) (o : Mem)
    (ho : o ∈ owners) (hl : alive live o = true) (hc : count o ≠ some 0) :
    ∃ o' ∈ distributeBackups live count owners (some cs), o'.id = o.id := by
  simp only [distributeBackups, List.ne_nil_of_mem ho, if_false]
  exact foldl_moveToEnd_keeps_id _ ⟨o, mem_prune.mpr ⟨ho, hl, hc⟩, rfl⟩

theorem foldl_ensure_mono (rs : List Mem) {l : List Mem} {o : Mem} (h : o ∈ l) : o ∈ rs.foldl ensureOwnership l :=
  List.foldlRecOn rs ensureOwnership h fun l hl r _ => (C13_leftover l r).2.1 o hl

theorem foldl_ensure_has (rs l : List Mem) (m : Mem) (h : m ∈ rs) : ∃ o ∈ rs.foldl ensureOwnership l, o.id = m.id := by
  induction rs generalizing l with
  | nil => cases h
  | cons r rest ih =>
    rcases List.mem_cons.mp h with h | h
    · subst h
      obtain ⟨o, ho, e⟩ := (C13_leftover l m).1
      exact ⟨o, foldl_ensure_mono rest ho, e⟩
    · exact ih _ h

theorem foldl_ensure_mem (rs l : List Mem) (o : Mem) (h : o ∈ rs.foldl ensureOwnership l) : o ∈ l ∨ o ∈ rs := by
  refine List.foldlRecOn rs ensureOwnership (motive := fun acc => o ∈ acc → o ∈ l ∨ o ∈ rs) Or.inl (fun acc ih r hr ho => ?_) h
  unfold ensureOwnership at ho
  split at ho
  · exact ih ho
  · exact (List.mem_cons.mp ho).elim (fun e => Or.inr (e ▸ hr)) ih

/-- the hypothesis speaks of the owners the coordinator asks in the second round only: the first push's list with
    the reporters added -/
theorem leftover_pushed (live : List Mem) (count1 count2 : Mem → Option Nat) (coordOwners : List Mem) (ro : Mem)
    (reporters : List Mem) (m : Mem) (hm : m ∈ reporters)
    (hok : ∀ o ∈ reporters.foldl ensureOwnership (distributePrimary live count1 coordOwners ro), o.id = m.id →
      alive live o = true ∧ count2 o ≠ some 0) :
    ∃ o ∈ updateRoutingPart live count1 count2 coordOwners ro reporters, o.id = m.id := by
  obtain ⟨o, ho, e⟩ := foldl_ensure_has reporters (distributePrimary live count1 coordOwners ro) m hm
  unfold updateRoutingPart
  simp only
  split
  · rename_i h; rw [h] at ho; exact ⟨o, ho, e⟩
  · obtain ⟨o', ho', e'⟩ := distributePrimary_keeps_holder live count2 _ ro o ho (hok o ho e).1 (hok o ho e).2
    exact ⟨o', ho', e'.trans e⟩

/-- **C13 / C03 (left-over data is listed everywhere).**  For every previous owners list, member list, ring owner and
    both rounds of key-count answers: a member that reports left-over data for the partition when it receives the
    table - it stored a key for it while the table was being computed - and that is still that live member holding
    data when the coordinator asks again, is on the owners list of the LAST push of this update: every member, not
    only the coordinator, knows where that data lives when `updateRouting` returns. -/
theorem C13_leftover_pushed (live : List Mem) (count1 count2 : Mem → Option Nat) (coordOwners : List Mem) (ro : Mem)
    (reporters : List Mem) (m : Mem) (hm : m ∈ reporters)
    (hok : ∀ o, o.id = m.id → alive live o = true ∧ count2 o ≠ some 0) :
    ∃ o ∈ updateRoutingPart live count1 count2 coordOwners ro reporters, o.id = m.id :=
  leftover_pushed live count1 count2 coordOwners ro reporters m hm fun o _ => hok o

/-- nothing is pushed twice when no report added an owner -/
theorem C13_single_push_when_nothing_reported (live : List Mem) (count1 count2 : Mem → Option Nat) (coordOwners : List Mem) (ro : Mem) :
    updateRoutingPart live count1 count2 coordOwners ro [] = distributePrimary live count1 coordOwners ro := by
  simp [updateRoutingPart]

/-- the shapes the model follows, regenerated from the source on every run -/
theorem facts_tie : Facts.distribute_prunes_then_appends_ring_owners = true ∧
    Facts.only_oldest_member_computes_and_receivers_verify_sender = true ∧
    Facts.leftover_report_is_pushed_again = true ∧
    Facts.distribute_works_on_a_copy_of_the_owners = true ∧
    Facts.periodic_push_runs_on_every_member = true ∧
    Facts.pushed_table_is_checked_before_it_is_applied = true := by decide

/-! Non-vacuity: three live members; member (1,11) re-joined as (1,12); previous owners [(1,11), (0,10)],
    member 0 reports 5 keys; the ring picks member 2. -/
def live0 : List Mem := [⟨0, 10⟩, ⟨1, 12⟩, ⟨2, 13⟩]
example : distributePrimary live0 (fun m => if m.name = 0 then some 5 else some 0) [⟨1, 11⟩, ⟨0, 10⟩] ⟨2, 13⟩
    = [⟨0, 10⟩, ⟨2, 13⟩] := by decide
example : distributeBackups live0 (fun _ => some 3) [⟨0, 10⟩, ⟨1, 11⟩] (some [⟨2, 13⟩, ⟨0, 10⟩])
    = [⟨0, 10⟩] := by decide
example : distributeBackups live0 (fun _ => some 3) [⟨2, 13⟩, ⟨1, 12⟩] (some [⟨0, 10⟩, ⟨2, 13⟩])
    = [⟨1, 12⟩, ⟨2, 13⟩] := by decide
example : RingOK live0 2 ⟨2, 13⟩ [⟨2, 13⟩, ⟨0, 10⟩] := ⟨rfl, by decide, by decide, by decide⟩
/-! F46 (fixed aa5aa21): member 0 owned the partition, it was empty when the coordinator asked; member 1 joins and the
    ring gives it the partition; member 0 stores a key in between and reports it.  The first push does not list member
    0 (what every member but the coordinator held until the next periodic push, before the repair); the update as a
    whole does. -/
example : distributePrimary [⟨0, 10⟩, ⟨1, 12⟩] (fun _ => some 0) [⟨0, 10⟩] ⟨1, 12⟩ = [⟨1, 12⟩] := by decide
example : updateRoutingPart [⟨0, 10⟩, ⟨1, 12⟩] (fun _ => some 0) (fun m => if m.name = 0 then some 1 else some 0) [⟨0, 10⟩] ⟨1, 12⟩ [⟨0, 10⟩]
    = [⟨0, 10⟩, ⟨1, 12⟩] := by decide
/-- and the hypothesis of `leftover_pushed` is met there: the one listed member with id 10 is live member 0, which answers 1 key -/
example : ∀ o ∈ [(⟨0, 10⟩ : Mem)].foldl ensureOwnership (distributePrimary [⟨0, 10⟩, ⟨1, 12⟩] (fun _ => some 0) [⟨0, 10⟩] ⟨1, 12⟩),
    o.id = 10 → alive [⟨0, 10⟩, ⟨1, 12⟩] o = true ∧ (if o.name = 0 then some 1 else some 0) ≠ some 0 := by decide
example : coordinator [(⟨0, 10⟩, 5), (⟨1, 12⟩, 3), (⟨2, 13⟩, 9)] = some ⟨1, 12⟩ := by decide

end Olric.C13
