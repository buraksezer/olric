/-
  C17 — Values and keys read back identical to what was written.
  Statements about Base/Codec.lean (byte layout, decimal text) and Store/Model.lean.
-/
import OlricModel.Proofs.CodecLemmas
import OlricModel.Props.C11
namespace Olric.C17
open Olric KV

/-- **C17 (entry layout).**  For every record whose key fits one length byte and whose value fits a
    32-bit length (and int64 stamps), the bytes written by Entry.Encode / table.Put decode to exactly
    that record: every key byte and value byte (NUL, CR/LF, any binary, empty, any length) verbatim.
    The same bytes travel to backups (DM.PUTENTRY), previous owners and inside a moved table. -/
theorem C17_layout_roundtrip (r : Rec) (h : r.Enc) : decodeRec (encodeRec r) = some r :=
  decode_encode r h

/-- the encoding is injective on encodable records: two different entries never share bytes -/
theorem C17_layout_injective (r s : Rec) (hr : r.Enc) (hs : s.Enc) (e : encodeRec r = encodeRec s) : r = s := by
  have a := decode_encode r hr
  rw [e, decode_encode s hs] at a
  injection a with a; exact a.symm

/-- **C17 (signed integers of every width).**  int8/16/32/64 (and `int`, time.Duration): the decimal
    text produced by Encode is read back by Scan into a type of `bits` bits as the same number when
    it fits, and is a range error — never a wrapped value — when it does not. -/
theorem C17_int_roundtrip (bits : Nat) (n : Int) :
    parseInt bits (fmtInt n) =
      if -(2 ^ (bits - 1) : Int) ≤ n ∧ n < 2 ^ (bits - 1) then .ok n else .error .range := by
  exact_mod_cast parseIntB_fmtInt (2 ^ (bits - 1)) n

theorem C17_int64_exact (n : Int) (h1 : -(2 ^ 63 : Int) ≤ n) (h2 : n < 2 ^ 63) :
    parseInt 64 (fmtInt n) = .ok n := by
  rw [C17_int_roundtrip, if_pos ⟨h1, h2⟩]

/-- **C17 (unsigned integers of every width).**  Likewise for uint8/16/32/64: the same number when it fits
    the width, a range error when it does not. -/
theorem C17_uint_roundtrip (bits n : Nat) :
    parseUint bits (fmtNat n) = if n < 2 ^ bits then .ok n else .error .range := by
  simp only [parseUint, fmtNat_ne_nil, if_false, parseDigits_fmtNat]

/-- **C17 (limits).**  A key of 256 bytes or more, and an entry that does not fit a table, are
    refused with the documented errors and leave every key of the store as it was (nothing truncated,
    no neighbour touched); everything smaller is accepted. -/
theorem C17_limits (k : KV) (w : k.WF) (h : Nat) (r : Rec) (now : Int) :
    ((k.put h r now).2 = .entryTooLarge ↔ r.size ≥ k.tableSize) ∧
    ((k.put h r now).2 = .keyTooLarge ↔ (r.size < k.tableSize ∧ r.key.length ≥ 256)) ∧
    ((k.put h r now).2 = .ok ↔ (r.size < k.tableSize ∧ r.key.length < 256)) ∧
    ((k.put h r now).2 ≠ .ok → ∀ h', (k.put h r now).1.lookup h' = k.lookup h') := by
  obtain ⟨_, pbig, pkey, perr⟩ := C11.C11_errors k w h r now
  refine ⟨pbig, pkey, ?_, perr⟩
  rw [(put_spec k w h r now).2.2.1, ← Nat.not_le, ← Nat.not_le]
  by_cases hb : r.size ≥ k.tableSize
  · simp [hb]
  · by_cases hk : r.key.length ≥ 256 <;> simp [hb, hk]

/-- **C17 (store).**  What `Put` accepted is what `Get` returns: key, value, expiry and timestamp are
    exactly the stored ones, in every reachable store state. -/
theorem C17_put_get (k : KV) (w : k.WF) (h : Nat) (r : Rec) (now now' : Int)
    (hok : (k.put h r now).2 = .ok) :
    ((k.put h r now).1.get h now').1 = some { r with la := now } := by
  obtain ⟨pw, _, _, pl⟩ := put_spec k w h r now
  -- `ok` is answered only below both limits
  have hfit := (C17_limits k w h r now).2.2.1.mp hok
  rw [(get_spec _ pw h now').2.2.1, pl h, if_neg (not_or.mpr ⟨Nat.not_le.mpr hfit.1, Nat.not_le.mpr hfit.2⟩), if_pos rfl]

/-- **C17 (migration).**  A record that travels inside an exported table arrives unchanged when the
    destination has no copy of the key. -/
theorem C17_migration (src src' dst : KV) (t : Table) (ws : src.WF) (wd : dst.WF)
    (hT : dst.tableSize = src.tableSize) (he : src.exportDrop = some (t, src'))
    (order : List Nat) (now : Int) (hnd : order.Nodup) (hcov : ∀ s ∈ t.slots, s.hk ∈ order)
    (h : Nat) (s : Slot) (hs : t.find h = some s) (hnone : dst.lookup h = none) :
    ((dst.importTable t order now).lookup h).map Rec.core = some s.r.core := by
  obtain ⟨_, _, hx, _⟩ := C11.C11_transfer src src' dst t ws wd hT he order now hnd hcov
  rw [(hx h s hs).2.2, hnone]; rfl

/-! Non-vacuity: a record with binary key and value bytes, extreme stamps -/
def sample : Rec := { key := [0, 13, 10, 255], ttl := 2 ^ 63 - 1, ts := -(2 ^ 63), la := 0, val := [0, 0, 13, 10] }
theorem sample_enc : sample.Enc := by simp [Rec.Enc, sample]
example : sample.Enc := sample_enc
example : decodeRec (encodeRec sample) = some sample := C17_layout_roundtrip sample sample_enc
example : parseInt 8 (fmtInt 128) = .error .range := by rw [C17_int_roundtrip]; simp
example : parseInt 8 (fmtInt (-128)) = .ok (-128) := by rw [C17_int_roundtrip]; simp

end Olric.C17
