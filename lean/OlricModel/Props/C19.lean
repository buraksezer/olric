/-
  C19 — Destroy removes one DMap everywhere and DMaps never interfere.
  Statements about DMap/Model.lean: a member's storage is keyed by (DMap name, key); the hashed key
  plays no role above the fragment, so equal hashes of different (name, key) pairs cannot collide.
-/
import OlricModel.Props.C04
import OlricModel.Props.C09
namespace Olric.C19
open Olric Olric.DMap Olric.C04

/-- **C19 (destroy).**  After Destroy, on every member, primary and backup, no entry of the DMap is
    left: every key reads not-found through every route and every quorum setting that can be met;
    entries of every other DMap are untouched. -/
theorem C19_destroy (c : Cluster) (dm : Bytes) :
    (∀ m kind k, (destroy c dm).copy m kind dm k = none) ∧
    (∀ m kind dm' k, dm' ≠ dm → (destroy c dm).copy m kind dm' k = c.copy m kind dm' k) := by
  constructor
  · intro m kind k; cases kind <;> simp [destroy, Cluster.copy]
  · intro m kind dm' k h; cases kind <;> simp [destroy, Cluster.copy, h]

theorem C19_destroy_reads_not_found (cfg : Cfg) (r : Route) (c : Cluster) (dm : Bytes) (k : Key) (now : Int)
    (hq : cfg.RQ ≤ r.baks.length + 1) :
    (get cfg r allReach (destroy c dm) dm k now).2 = .notFound :=
  (C09.C09_invisible_after cfg r _ dm k now (fun m kind => by rw [(C19_destroy c dm).1]; rfl) hq).1

/-- the DMap stays usable: a Put after Destroy is stored and readable -/
theorem C19_put_after_destroy (cfg : Cfg) (r : Route) (c : Cluster) (dm : Bytes) (k : Key) (v : Bytes) (now : Int) :
    (put cfg r allReach (destroy c dm) dm k v {} now).1.copy r.owner .prim dm k =
      some ⟨v, prepareTTL .none cfg.dmTTL now, now⟩ := by
  rw [put_eq, if_neg (fun h => by cases h.1), if_neg (fun h => by cases h.1), copy_owner_replicate, if_pos rfl]

/-- **C19 (isolation).**  No operation on DMap `a` — Put with any option, Expire, Delete, Get with
    read-repair off, Destroy — changes any copy of a DMap with a different name, for any keys,
    including identical keys and keys whose concatenation with the name coincides. -/
theorem C19_isolation (cfg : Cfg) (r : Route) (a b : Bytes) (hab : b ≠ a) (k : Key) (c : Cluster) (op : Op)
    (m : Nat) (kind : Kind) (k' : Key) :
    (step cfg r a k c op).copy m kind b k' = c.copy m kind b k' :=
  C04_frame cfg r a k c op m kind b k' (fun ⟨h, _⟩ => hab h)

/-- and its results do not depend on the other DMap's contents: two clusters that agree on DMap `a`
    give the same answers and the same copies of `a` -/
theorem C19_results_independent (cfg : Cfg) (r : Route) (reach : Reach) (a : Bytes) (k : Key) (v : Bytes) (pc : PutCfg)
    (now : Int) (c1 c2 : Cluster) (hagree : ∀ m kind k', c1.copy m kind a k' = c2.copy m kind a k') :
    (put cfg r reach c1 a k v pc now).2 = (put cfg r reach c2 a k v pc now).2 ∧
    (get cfg r reach c1 a k now).2 = (get cfg r reach c2 a k now).2 := by
  constructor
  · -- the guard reads the owner's copy, the acknowledgement counts reachable backup owners
    rw [put_eq, put_eq, hagree]
    simp only [apply_ite Prod.snd, replicate_snd]
  · -- the answer is a function of the gathered versions, and those read DMap `a` only
    rw [get_snd, get_snd]
    simp only [versions, hagree]

/-! Non-vacuity: ("ab","c") and ("a","bc") have the same concatenation and are independent -/
example : ((put {} ⟨[0], []⟩ allReach Cluster.empty [97, 98] [99] [1] {} 5).1.copy 0 .prim [97] [98, 99]) = none := by decide

end Olric.C19
