/-
  C04 — Every backup copy mirrors the primary after each acknowledged operation.
  Statements about DMap/Model.lean (tied to internal/dmap by the `cluster` stream, which reads every
  member's primary and backup copy after each mutation).  `Mirror` and `allReach` are defined in
  Proofs/HealthyCluster.lean, beside the lemmas through which the later properties use them.
-/
import OlricModel.Proofs.HealthyCluster
namespace Olric.C04
open Olric Olric.DMap

/-- mutating operations on one key (stable routing, every backup owner reachable) -/
inductive Op
  | put (v : Bytes) (pc : PutCfg) (now : Int)
  | expire (timeout now : Int)
  | del
  | get (now : Int)

/-- `.get` runs with read-repair off: with it on, a Get over unequal copies writes (C06_read_repair); that it
    writes nothing when the copies agree is `get_mirrored`, which needs stable routing and a reachable read quorum -/
def step (cfg : Cfg) (r : Route) (dm : Bytes) (k : Key) (c : Cluster) : Op → Cluster
  | .put v pc now => (put cfg r allReach c dm k v pc now).1
  | .expire t now => (expire cfg r allReach c dm k t now).1
  | .del => del cfg r c dm k
  | .get now => (get { cfg with readRepair := false } r allReach c dm k now).1

theorem step_cases (cfg : Cfg) (r : Route) (dm : Bytes) (k : Key) (c : Cluster) (op : Op) :
    step cfg r dm k c op = c ∨ (∃ e, step cfg r dm k c op = (replicate cfg r allReach c dm k e).1) ∨
      step cfg r dm k c op = del cfg r c dm k := by
  cases op with
  | put v pc now =>
    rcases put_cases cfg r allReach c dm k v pc now with h | h | h
    · exact .inl (congrArg Prod.fst h)
    · exact .inl (congrArg Prod.fst h)
    · exact .inr (.inl ⟨_, congrArg Prod.fst h⟩)
  | expire t now =>
    cases h : live (c.copy r.owner .prim dm k) now with
    | none => exact .inl (congrArg Prod.fst (expire_of_gone h))
    | some cur => exact .inr (.inl ⟨_, congrArg Prod.fst (expire_of_live h)⟩)
  | del => exact .inr (.inr rfl)
  | get now => exact .inl (get_fst_noRepair rfl)

/-- **C04 (one step).**  Whatever the state before, after a Put (any option combination), an Expire,
    a Delete or a read, acknowledged or refused, every backup copy of the key equals the primary copy
    — provided it did before (a refused conditional Put / Expire changes nothing) — and after an
    acknowledged Put or Expire they all equal the entry just written. -/
theorem C04_step (cfg : Cfg) (hR : cfg.R > 1) (r : Route) (dm : Bytes) (k : Key) (c : Cluster) (op : Op)
    (hm : Mirror c r dm k) : Mirror (step cfg r dm k c op) r dm k := by
  rcases step_cases cfg r dm k c op with h | ⟨e, h⟩ | h <;> rw [h]
  · exact hm
  · exact mirror_replicate (.inl hR)
  · exact mirror_del (.inl hR)

/-- **C04.**  For every sequence of mutating operations on a key, of any length and with any option
    combinations, starting from any state in which the copies agree (e.g. the empty cluster): after
    every operation every backup copy is identical to the primary copy in value, expiry and write
    timestamp, and absent exactly when the primary copy is absent. -/
theorem C04_mirror (cfg : Cfg) (hR : cfg.R > 1) (r : Route) (dm : Bytes) (k : Key) (ops : List Op) (c : Cluster)
    (hm : Mirror c r dm k) : Mirror (ops.foldl (step cfg r dm k) c) r dm k := by
  induction ops generalizing c with
  | nil => exact hm
  | cons op ops ih => exact ih _ (C04_step cfg hR r dm k c op hm)

theorem C04_mirror_from_empty (cfg : Cfg) (hR : cfg.R > 1) (r : Route) (dm : Bytes) (k : Key) (ops : List Op) :
    Mirror (ops.foldl (step cfg r dm k) Cluster.empty) r dm k :=
  C04_mirror cfg hR r dm k ops _ (fun _ _ => rfl)

/-- an acknowledged Put leaves, on the primary and on every backup, exactly the entry written -/
theorem C04_put_written (cfg : Cfg) (hR : cfg.R > 1) (r : Route) (dm : Bytes) (k : Key) (c : Cluster)
    (v : Bytes) (pc : PutCfg) (now : Int) (hok : (put cfg r allReach c dm k v pc now).2 = .ok) :
    let e : Copy := ⟨v, prepareTTL pc.ttl cfg.dmTTL now, now⟩
    (put cfg r allReach c dm k v pc now).1.copy r.owner .prim dm k = some e ∧
    ∀ b ∈ r.baks, (put cfg r allReach c dm k v pc now).1.copy b .bak dm k = some e := by
  intro e
  rcases put_cases cfg r allReach c dm k v pc now with h | h | h <;> rw [h] at hok ⊢
  · cases hok
  · cases hok
  · exact ⟨by rw [copy_owner_replicate, if_pos rfl], fun b hb => copy_bak_replicate hR hb rfl⟩

/-- a read answered from any single copy gives the same result: the copies are equal -/
theorem C04_any_copy_same (c : Cluster) (r : Route) (dm : Bytes) (k : Key) (hm : Mirror c r dm k) (now : Int) :
    ∀ b ∈ r.baks, live (c.copy b .bak dm k) now = live (c.copy r.owner .prim dm k) now :=
  fun b hb => by rw [hm b hb]

/-- operations on one key never touch the copies of another key or another DMap (frame) -/
theorem C04_frame (cfg : Cfg) (r : Route) (dm : Bytes) (k : Key) (c : Cluster) (op : Op)
    (j : Nat) (kind : Kind) (dm' : Bytes) (k' : Key) (hne : ¬ (dm' = dm ∧ k' = k)) :
    (step cfg r dm k c op).copy j kind dm' k' = c.copy j kind dm' k' := by
  rcases step_cases cfg r dm k c op with h | ⟨e, h⟩ | h <;> rw [h]
  · rw [copy_replicate, if_neg (fun h => hne h.2)]
  · rw [copy_del, if_neg (fun h => hne h.2)]

/-! Non-vacuity: R = 3 (owner 2, backups 0 and 1); every history from the empty cluster; an NX Put with a 5 ms
    expiry at t = 1 µs leaves its entry on backup 0. -/
def r0 : Route := ⟨[2], [0, 1]⟩
def cfg0 : Cfg := { R := 3, W := 2, RQ := 1 }
example : (ops : List Op) → Mirror (ops.foldl (step cfg0 r0 [100] [107]) Cluster.empty) r0 [100] [107] :=
  fun ops => C04_mirror_from_empty cfg0 (by decide) r0 [100] [107] ops
example : ((put cfg0 r0 allReach Cluster.empty [100] [107] [1, 2] { nx := true, ttl := .px 5000000 } 1000).1.copy 0 .bak [100] [107])
    = some ⟨[1, 2], 5, 1000⟩ := by decide

end Olric.C04
