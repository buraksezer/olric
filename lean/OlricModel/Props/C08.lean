/-
  C08 — Distributed lock: mutual exclusion, token safety and timeout behaviour.

  In a stable, healthy cluster (Proofs/HealthyCluster.lean) every lock step of DMap/Model.lean is a step of an abstract
  lock, a single `Option Copy` (token, deadline, acquisition time).  The properties are proved on the abstract lock for
  EVERY history of steps by any number of clients at non-decreasing instants — including the second halves of Unlock and
  Lease executed at a later instant than their first halves, with other steps in between (every interleaving at the
  granularity at which the code holds the owner's fragment lock) — and carried over to histories of steps on the cluster
  model by `C08_refines`.
-/
import OlricModel.Proofs.HealthyCluster
import OlricModel.Generated.Facts
namespace Olric.C08
open Olric Olric.DMap Olric.C04

/-- deadline stored for a lock taken at `now` (unix ms; 0 = none) -/
def lockTTL (dmTTL timeout now : Int) : Int :=
  prepareTTL (if timeout != 0 then TTLOpt.px timeout else TTLOpt.none) dmTTL now

/-- `lock` on the single entry: put-if-absent of the token; a live entry refuses -/
def sLock (dmTTL : Int) (s : LState) (tok : Bytes) (timeout now : Int) : LState × LockRes :=
  if (live s now).isSome then (s, .notAcquired)
  else (some ⟨tok, lockTTL dmTTL timeout now, now⟩, .acquired)

/-- `unlockChk` / `leaseChk`, the first half of Unlock / Lease: only looks -/
def sChk (s : LState) (tok : Bytes) (now : Int) : Option LockRes :=
  match live s now with
  | some x => if x.val = tok then none else some .noSuchLock
  | none => some .noSuchLock

/-- `unlockFin` (deleteLockKey): the token is compared once more, then the entry goes; an absent entry is deleted too -/
def sUnlockFin (s : LState) (tok : Bytes) (now : Int) : LState × LockRes :=
  match s with
  | some x => if expired x.ttl now || x.val != tok then (s, .noSuchLock) else (none, .ok)
  | none => (none, .ok)

/-- deadline stored by a Lease at `now`: Expire's, the DMap default standing in for a zero timeout -/
def leaseTTL (dmTTL timeout now : Int) : Int :=
  prepareTTL .none (if timeout != 0 then timeout else dmTTL) now

/-- `leaseFin` (expireLockKey): the token is compared once more, then the deadline is replaced -/
def sLeaseFin (dmTTL : Int) (s : LState) (tok : Bytes) (timeout now : Int) : LState × LockRes :=
  match s with
  | some x =>
    if expired x.ttl now || x.val != tok then (s, .noSuchLock)
    else (some ⟨x.val, leaseTTL dmTTL timeout now, now⟩, .ok)
  | none => (s, .noSuchLock)

theorem lock_refines (cfg : Cfg) (r : Route) (h : Healthy cfg r) (c : Cluster) (dm : Bytes) (k : Key)
    (tok : Bytes) (timeout now : Int) (hm : Mirror c r dm k) :
    (lock cfg r allReach c dm k tok timeout now).2 = (sLock cfg.dmTTL (abs c r dm k) tok timeout now).2 ∧
    abs (lock cfg r allReach c dm k tok timeout now).1 r dm k = (sLock cfg.dmTTL (abs c r dm k) tok timeout now).1 ∧
    Mirror (lock cfg r allReach c dm k tok timeout now).1 r dm k := by
  simp only [lock, DMap.put, sLock, Bool.true_and, Bool.false_and, Bool.false_eq_true, if_false]
  unfold abs
  cases hl : (live (c.copy r.owner Kind.prim dm k) now).isSome with
  | true => exact ⟨rfl, rfl, hm⟩
  | false =>
    simp only [Bool.false_eq_true, if_false]
    rw [replicate_ack h]
    exact ⟨rfl, (replicate_healthy h c dm k _).2⟩

theorem unlockChk_refines (cfg : Cfg) (r : Route) (h : Healthy cfg r) (c : Cluster) (dm : Bytes) (k : Key)
    (tok : Bytes) (now : Int) (hm : Mirror c r dm k) :
    unlockChk cfg r allReach c dm k tok now = (c, sChk (abs c r dm k) tok now) := by
  simp only [unlockChk, get_mirrored cfg now hm h.prev h.rq, sChk]
  cases live (abs c r dm k) now with
  | none => rfl
  | some x => simp only; split <;> rfl

/-- the extra expiry test of leaseKey cannot fire on an entry that a Get has just answered at the same instant -/
theorem leaseChk_eq_unlockChk (cfg : Cfg) (r : Route) (reach : Reach) (c : Cluster) (dm : Bytes) (k : Key)
    (tok : Bytes) (now : Int) : leaseChk cfg r reach c dm k tok now = unlockChk cfg r reach c dm k tok now := by
  unfold leaseChk unlockChk
  split
  · rename_i c1 x hg
    obtain ⟨_, _, _, _, _, hx⟩ := answer_val ((get_snd cfg r reach c dm k now).symm.trans (congrArg Prod.snd hg))
    have : (x.ttl > 0 && decide (Int.tdiv now 1000000 ≥ x.ttl)) = false := by
      simp only [Bool.and_eq_false_iff, decide_eq_false_iff_not]
      exact (expired_eq_false.mp hx).imp (fun e : x.ttl = 0 => e ▸ Int.lt_irrefl 0) Int.not_le.mpr
    simp only [this, Bool.false_eq_true, if_false]
  · rfl
  · rfl

theorem leaseChk_refines (cfg : Cfg) (r : Route) (h : Healthy cfg r) (c : Cluster) (dm : Bytes) (k : Key)
    (tok : Bytes) (now : Int) (hm : Mirror c r dm k) :
    leaseChk cfg r allReach c dm k tok now = (c, sChk (abs c r dm k) tok now) :=
  leaseChk_eq_unlockChk .. ▸ unlockChk_refines cfg r h c dm k tok now hm

theorem unlockFin_refines (cfg : Cfg) (r : Route) (h : Healthy cfg r) (c : Cluster) (dm : Bytes) (k : Key)
    (tok : Bytes) (now : Int) (hm : Mirror c r dm k) :
    (unlockFin cfg r c dm k tok now).2 = (sUnlockFin (abs c r dm k) tok now).2 ∧
    abs (unlockFin cfg r c dm k tok now).1 r dm k = (sUnlockFin (abs c r dm k) tok now).1 ∧
    Mirror (unlockFin cfg r c dm k tok now).1 r dm k := by
  dsimp only [unlockFin, sUnlockFin, abs]
  cases hc : c.copy r.owner Kind.prim dm k with
  | none => exact ⟨rfl, del_healthy h c dm k⟩
  | some x =>
    simp only
    split
    · exact ⟨rfl, hc, hm⟩
    · exact ⟨rfl, del_healthy h c dm k⟩

theorem leaseFin_refines (cfg : Cfg) (r : Route) (h : Healthy cfg r) (c : Cluster) (dm : Bytes) (k : Key)
    (tok : Bytes) (timeout now : Int) (hm : Mirror c r dm k) :
    (leaseFin cfg r allReach c dm k tok timeout now).2 = (sLeaseFin cfg.dmTTL (abs c r dm k) tok timeout now).2 ∧
    abs (leaseFin cfg r allReach c dm k tok timeout now).1 r dm k = (sLeaseFin cfg.dmTTL (abs c r dm k) tok timeout now).1 ∧
    Mirror (leaseFin cfg r allReach c dm k tok timeout now).1 r dm k := by
  dsimp only [leaseFin, sLeaseFin, abs]
  cases hc : c.copy r.owner Kind.prim dm k with
  | none => exact ⟨rfl, hc, hm⟩
  | some x =>
    simp only
    cases hg : (expired x.ttl now || x.val != tok) with
    | true => exact ⟨rfl, hc, hm⟩
    | false =>
      rw [expire_of_live (live_eq_some.mpr ⟨hc, (Bool.or_eq_false_iff.mp hg).1⟩), replicate_ack h]
      exact ⟨rfl, (replicate_healthy h c dm k _).2⟩

/-- what a step of a history does (the first halves of Unlock / Lease do not change anything and are not
    steps; a complete Unlock is `sChk` followed — at the same or a later instant — by `unlockFin`) -/
inductive Ev
  | lock (tok : Bytes) (timeout : Int)
  | unlockFin (tok : Bytes)
  | leaseFin (tok : Bytes) (timeout : Int)
  deriving Repr

def sStep (dmTTL : Int) (s : LState) (ev : Ev) (now : Int) : LState × LockRes :=
  match ev with
  | .lock tok timeout => sLock dmTTL s tok timeout now
  | .unlockFin tok => sUnlockFin s tok now
  | .leaseFin tok timeout => sLeaseFin dmTTL s tok timeout now

/-- `bne_iff_ne` at tokens: the instance search for `LawfulBEq (List UInt8)` is slow, so it is run once, here -/
theorem tok_bne {a b : Bytes} : (a != b) = true ↔ a ≠ b := bne_iff_ne

/-- **C08 (a live lock is only ever touched by its own token).**  While the stored lock is live, any
    step that does not present its token — an acquisition attempt, or an Unlock / Lease (second half
    included) with a stale or forged token — fails with lock-not-acquired / no-such-lock and changes
    nothing. -/
theorem C08_holder_stable (dmTTL : Int) (x : Copy) (now : Int) (hlive : expired x.ttl now = false) (ev : Ev)
    (hother : match ev with | .lock _ _ => True | .unlockFin t => t ≠ x.val | .leaseFin t _ => t ≠ x.val) :
    (sStep dmTTL (some x) ev now).1 = some x ∧
    (sStep dmTTL (some x) ev now).2 = (match ev with | .lock _ _ => LockRes.notAcquired | _ => LockRes.noSuchLock) := by
  cases ev with
  | lock tok timeout => simp [sStep, sLock, live_some, hlive]
  | unlockFin t | leaseFin t timeout =>
    have : (x.val != t) = true := tok_bne.mpr (Ne.symm hother)
    simp [sStep, sUnlockFin, sLeaseFin, this]

/-- the first half alone also refuses a token that is not the live holder's, and lets the holder's through -/
theorem C08_chk (s : LState) (tok : Bytes) (now : Int) :
    (sChk s tok now = none ↔ ∃ x, s = some x ∧ expired x.ttl now = false ∧ x.val = tok) ∧
    (sChk s tok now ≠ none → sChk s tok now = some .noSuchLock) := by
  -- the right side says `live s now = some x`, which is all `sChk` looks at
  simp only [← and_assoc, ← live_eq_some]
  unfold sChk
  cases live s now with
  | none => simp
  | some x => by_cases hv : x.val = tok <;> simp [hv]

/-- **C08 (acquisition only of a free or expired lock).**  Lock returns a token exactly when no live
    entry is stored — the key was never locked, was unlocked, or its holder's deadline has passed —
    and then stores the new token with the deadline `now + timeout` (without a timeout: the DMap's default
    expiry, none if it has none). -/
theorem C08_acquire_iff (dmTTL : Int) (s : LState) (tok : Bytes) (timeout now : Int) :
    ((sLock dmTTL s tok timeout now).2 = .acquired ↔ live s now = none) ∧
    ((sLock dmTTL s tok timeout now).2 = .acquired →
        (sLock dmTTL s tok timeout now).1 = some ⟨tok, lockTTL dmTTL timeout now, now⟩) ∧
    ((sLock dmTTL s tok timeout now).2 ≠ .acquired →
        (sLock dmTTL s tok timeout now) = (s, .notAcquired)) := by
  unfold sLock
  cases live s now <;> simp

theorem lockTTL_of_timeout (dmTTL : Int) {timeout : Int} (hto : timeout ≠ 0) (t0 : Int) :
    lockTTL dmTTL timeout t0 = Int.tdiv (timeout + t0) 1000000 := by
  rw [lockTTL, if_pos (bne_iff_ne.mpr hto)]; rfl

/-- **C08 (timeouts).**  A lock taken with a timeout (no DMap default expiry needed) carries the
    deadline ⌊(now + timeout) / 1 ms⌋; it is live — nobody else can acquire it — at every instant whose
    millisecond is before the deadline, and it is free for acquisition at every instant from the
    deadline on. -/
theorem C08_timeout (dmTTL : Int) (tok : Bytes) (timeout t0 : Int) (hto : timeout ≠ 0) :
    lockTTL dmTTL timeout t0 = Int.tdiv (timeout + t0) 1000000 ∧
    ∀ now tok' timeout', lockTTL dmTTL timeout t0 ≠ 0 →
      ((Int.tdiv now 1000000 < lockTTL dmTTL timeout t0 →
          sLock dmTTL (some ⟨tok, lockTTL dmTTL timeout t0, t0⟩) tok' timeout' now =
            (some ⟨tok, lockTTL dmTTL timeout t0, t0⟩, .notAcquired)) ∧
       (lockTTL dmTTL timeout t0 ≤ Int.tdiv now 1000000 →
          (sLock dmTTL (some ⟨tok, lockTTL dmTTL timeout t0, t0⟩) tok' timeout' now).2 = .acquired)) := by
  refine ⟨lockTTL_of_timeout dmTTL hto t0, ?_⟩
  intro now tok' timeout' hnz
  generalize lockTTL dmTTL timeout t0 = d at hnz ⊢
  refine ⟨fun hlt => ?_, fun hge => ?_⟩
  · simp [sLock, live_some, expired_eq_false.mpr (.inr hlt)]
  · -- `hnz`: a computed deadline of 0 would read as "no expiry"
    simp [sLock, live_some, expired_eq_true.mpr ⟨hnz, hge⟩]

/-- A lock taken without a timeout (and no DMap default expiry) never expires. -/
theorem C08_no_timeout (tok : Bytes) (t0 : Int) :
    lockTTL 0 0 t0 = 0 ∧
    ∀ now tok' timeout', sLock 0 (some ⟨tok, 0, t0⟩) tok' timeout' now = (some ⟨tok, 0, t0⟩, .notAcquired) := by
  refine ⟨rfl, fun now tok' timeout' => ?_⟩
  simp [sLock, live_some, expired_eq_false.mpr (.inl rfl)]

/-- for `t0 + timeout ≥ 0` the stored deadline, read in ns, lies in `(t0 + timeout − 1 ms, t0 + timeout]`: the
    truncation to the millisecond, never later than asked for -/
theorem C08_deadline_granularity (dmTTL timeout t0 : Int) (hto : timeout ≠ 0) (h0 : 0 ≤ timeout + t0) :
    timeout + t0 - 1000000 < lockTTL dmTTL timeout t0 * 1000000 ∧ lockTTL dmTTL timeout t0 * 1000000 ≤ timeout + t0 := by
  rw [lockTTL_of_timeout dmTTL hto, Int.tdiv_eq_ediv_of_nonneg h0]
  omega

/-- what the clients believe: the tokens handed out and not given back, with their deadlines -/
abbrev Bel := List (Bytes × Int)

def validB (now : Int) (b : Bytes × Int) : Bool := !expired b.2 now

/-- one step of a history with the clients' beliefs updated from the replies they receive -/
def gStep (dmTTL : Int) (sb : LState × Bel) (ev : Ev) (now : Int) : LState × Bel :=
  match ev with
  | .lock tok timeout =>
    match sLock dmTTL sb.1 tok timeout now with
    | (s', .acquired) => (s', (tok, lockTTL dmTTL timeout now) :: sb.2)
    | (s', _) => (s', sb.2)
  | .unlockFin tok =>
    match sUnlockFin sb.1 tok now with
    | (s', .ok) => (s', sb.2.filter (fun b => b.1 != tok))
    | (s', _) => (s', sb.2)
  | .leaseFin tok timeout =>
    match sLeaseFin dmTTL sb.1 tok timeout now with
    | (s', .ok) => (s', sb.2.map (fun b => if b.1 = tok then (tok, leaseTTL dmTTL timeout now) else b))
    | (s', _) => (s', sb.2)

/-- the reply that tells a client its step took effect -/
def Ev.good : Ev → LockRes
  | .lock _ _ => .acquired
  | _ => .ok

theorem sStep_refused {dmTTL : Int} {s : LState} {ev : Ev} {now : Int} (hr : (sStep dmTTL s ev now).2 ≠ ev.good) :
    (sStep dmTTL s ev now).1 = s := by
  cases ev with
  | lock tok timeout => exact congrArg Prod.fst ((C08_acquire_iff dmTTL s tok timeout now).2.2 hr)
  | unlockFin tok | leaseFin tok timeout =>
    cases s with
    | none => rfl
    | some x =>
      dsimp only [sStep, sUnlockFin, sLeaseFin] at hr ⊢
      split
      · rfl
      · rename_i hg; simp [hg, Ev.good] at hr

theorem sLeaseFin_ok {dmTTL : Int} {s : LState} {tok : Bytes} {timeout now : Int}
    (hok : (sLeaseFin dmTTL s tok timeout now).2 = .ok) :
    (sLeaseFin dmTTL s tok timeout now).1 = some ⟨tok, leaseTTL dmTTL timeout now, now⟩ := by
  -- `.ok` is answered only in the branch where the stored token is `tok`
  revert hok; unfold sLeaseFin
  split
  · split
    · simp
    · rename_i x hg; simp only [Bool.or_eq_true, tok_bne, not_or, Decidable.not_not] at hg; simp [hg.2]
  · simp

def believe (dmTTL : Int) (ev : Ev) (now : Int) (bel : Bel) : Bel :=
  match ev with
  | .lock tok timeout => (tok, lockTTL dmTTL timeout now) :: bel
  | .unlockFin tok => bel.filter (fun b => b.1 != tok)
  | .leaseFin tok timeout => bel.map (fun b => if b.1 = tok then (tok, leaseTTL dmTTL timeout now) else b)

theorem gStep_eq (dmTTL : Int) (sb : LState × Bel) (ev : Ev) (now : Int) :
    gStep dmTTL sb ev now = ((sStep dmTTL sb.1 ev now).1,
      if (sStep dmTTL sb.1 ev now).2 = ev.good then believe dmTTL ev now sb.2 else sb.2) := by
  cases ev <;> dsimp only [gStep, sStep, Ev.good, believe] <;> split <;> simp_all

/-- every belief that is still valid is the stored lock -/
def Inv (now : Int) (sb : LState × Bel) : Prop :=
  ∀ b ∈ sb.2, validB now b = true → ∃ ts, sb.1 = some ⟨b.1, b.2, ts⟩

theorem inv_mono {now now' : Int} (hle : now ≤ now') {sb : LState × Bel} (h : Inv now sb) : Inv now' sb := by
  intro b hb hv
  refine h b hb ?_
  simp only [validB, Bool.not_eq_true', Bool.eq_false_iff] at hv ⊢
  exact fun he => hv (expired_mono hle he)

theorem inv_step (dmTTL : Int) (now : Int) (sb : LState × Bel) (ev : Ev) (h : Inv now sb) :
    Inv now (gStep dmTTL sb ev now) := by
  obtain ⟨s, bel⟩ := sb
  -- a valid belief is the stored, live lock: a step that does not present its token is refused
  have hold : ∀ b ∈ bel, validB now b = true →
      (match ev with | .lock _ _ => True | .unlockFin t => t ≠ b.1 | .leaseFin t _ => t ≠ b.1) →
      (sStep dmTTL s ev now).2 ≠ ev.good := by
    intro b hb hv hother
    obtain ⟨ts, rfl⟩ := h b hb hv
    rw [(C08_holder_stable dmTTL ⟨b.1, b.2, ts⟩ now (by simpa [validB] using hv) ev hother).2]
    cases ev <;> simp [Ev.good]
  rw [gStep_eq]
  split
  · rename_i hok
    intro b hb hv
    cases ev with
    | lock tok timeout =>
      rcases List.mem_cons.mp hb with rfl | hb
      · exact ⟨now, (C08_acquire_iff dmTTL s tok timeout now).2.1 hok⟩
      · exact absurd hok (hold b hb hv trivial)
    | unlockFin tok =>
      obtain ⟨hb, hne⟩ := List.mem_filter.mp hb
      exact absurd hok (hold b hb hv fun e => tok_bne.mp hne e.symm)
    | leaseFin tok timeout =>
      obtain ⟨b0, hb0, rfl⟩ := List.mem_map.mp hb
      by_cases hbt : b0.1 = tok
      · simp only [hbt, if_true]; exact ⟨now, sLeaseFin_ok hok⟩
      · simp only [hbt, if_false] at hv ⊢
        exact absurd hok (hold b0 hb0 hv (Ne.symm hbt))
  · rename_i hr; rw [sStep_refused hr]; exact h

/-- a history: steps by any clients at the given instants -/
def run (dmTTL : Int) (sb : LState × Bel) : List (Ev × Int) → LState × Bel
  | [] => sb
  | (ev, now) :: rest => run dmTTL (gStep dmTTL sb ev now) rest

def Monotone (t : Int) : List (Ev × Int) → Prop
  | [] => True
  | (_, now) :: rest => t ≤ now ∧ Monotone now rest

def lastTime (t : Int) : List (Ev × Int) → Int
  | [] => t
  | (_, now) :: rest => lastTime now rest

theorem inv_run (dmTTL : Int) {h : List (Ev × Int)} {t : Int} {sb : LState × Bel} (hi : Inv t sb) (hm : Monotone t h) :
    Inv (lastTime t h) (run dmTTL sb h) := by
  induction h generalizing t sb with
  | nil => exact hi
  | cons e rest ih =>
    obtain ⟨ev, now⟩ := e
    exact ih (inv_step dmTTL now sb ev (inv_mono hm.1 hi)) hm.2

/-- **C08 (mutual exclusion).**  After ANY history of lock steps by any number of clients — acquisition
    attempts with any timeouts, Unlocks and Leases with current, stale or forged tokens, their second
    halves delayed past other clients' steps and past deadlines — at non-decreasing instants, at any
    later instant: every client whose token was handed out, not given back, and whose deadline (as
    extended by its Leases) has not passed, holds THE stored lock; in particular any two such clients
    hold the same token with the same deadline.  At most one token is held at any instant. -/
theorem C08_mutex (dmTTL : Int) (h : List (Ev × Int)) (t0 : Int) (hm : Monotone t0 h) (later : Int)
    (hl : lastTime t0 h ≤ later) (b1 b2 : Bytes × Int)
    (h1 : b1 ∈ (run dmTTL (none, []) h).2) (h2 : b2 ∈ (run dmTTL (none, []) h).2)
    (v1 : validB later b1 = true) (v2 : validB later b2 = true) :
    b1 = b2 ∧ ∃ ts, (run dmTTL (none, []) h).1 = some ⟨b1.1, b1.2, ts⟩ := by
  have hinv : Inv later (run dmTTL (none, []) h) :=
    inv_mono hl (inv_run dmTTL (fun b hb => by cases hb) hm)
  obtain ⟨ts1, e1⟩ := hinv b1 h1 v1
  obtain ⟨ts2, e2⟩ := hinv b2 h2 v2
  rw [e1] at e2
  simp only [Option.some.injEq, Copy.mk.injEq] at e2
  exact ⟨Prod.ext e2.1 e2.2.1, ts1, e1⟩

theorem gStep_tokens (dmTTL : Int) (sb : LState × Bel) (ev : Ev) (now : Int) :
    ((gStep dmTTL sb ev now).2.map (·.1)).Sublist (sb.2.map (·.1)) ∨
    ∃ tok timeout, ev = .lock tok timeout ∧ (gStep dmTTL sb ev now).2.map (·.1) = tok :: sb.2.map (·.1) := by
  rw [gStep_eq]
  split
  · cases ev with
    | lock tok timeout => exact .inr ⟨tok, timeout, rfl, rfl⟩
    | unlockFin tok => exact .inl (List.filter_sublist.map _)
    | leaseFin tok timeout =>
      -- a Lease rewrites deadlines only
      have : (believe dmTTL (.leaseFin tok timeout) now sb.2).map (·.1) = sb.2.map (·.1) := by
        rw [believe, List.map_map]
        refine List.map_congr_left fun b _ => ?_
        dsimp only [Function.comp]
        split
        · exact (‹b.1 = tok›).symm
        · rfl
      exact .inl (this ▸ List.Sublist.refl _)
  · exact .inl (List.Sublist.refl _)

/-- with tokens that are never reused (16 random bytes in the code) a token appears at most once among
    the beliefs: "the same token" above is "the same client" -/
theorem C08_tokens_unique (dmTTL : Int) (h : List (Ev × Int)) (sb : LState × Bel)
    (hnd : (sb.2.map (·.1)).Nodup)
    (hfresh : ∀ (i : Nat) tok timeout now, h[i]? = some (Ev.lock tok timeout, now) →
        tok ∉ sb.2.map (·.1) ∧ ∀ j tok' timeout' now', j < i → h[j]? = some (Ev.lock tok' timeout', now') → tok' ≠ tok) :
    ((run dmTTL sb h).2.map (·.1)).Nodup := by
  induction h generalizing sb with
  | nil => exact hnd
  | cons e rest ih =>
    obtain ⟨ev, now⟩ := e
    apply ih
    · rcases gStep_tokens dmTTL sb ev now with hs | ⟨tok, timeout, rfl, he⟩
      · exact hnd.sublist hs
      · rw [he]; exact List.nodup_cons.mpr ⟨(hfresh 0 tok timeout now rfl).1, hnd⟩
    · intro i tok timeout now' hi
      have hf := hfresh (i + 1) tok timeout now' hi
      refine ⟨fun hmem => ?_, fun j tok' timeout' now'' hj hjj => hf.2 (j + 1) tok' timeout' now'' (Nat.succ_lt_succ hj) hjj⟩
      rcases gStep_tokens dmTTL sb ev now with hs | ⟨tok0, timeout0, rfl, he⟩
      · exact hf.1 (hs.subset hmem)
      · rw [he] at hmem
        rcases List.mem_cons.mp hmem with rfl | hold
        · exact hf.2 0 tok timeout0 now (Nat.succ_pos i) rfl rfl
        · exact hf.1 hold

def cStep (cfg : Cfg) (r : Route) (dm : Bytes) (k : Key) (c : Cluster) (ev : Ev) (now : Int) : Cluster × LockRes :=
  match ev with
  | .lock tok timeout => lock cfg r allReach c dm k tok timeout now
  | .unlockFin tok => unlockFin cfg r c dm k tok now
  | .leaseFin tok timeout => leaseFin cfg r allReach c dm k tok timeout now

theorem cStep_refines (cfg : Cfg) (r : Route) (h : Healthy cfg r) (dm : Bytes) (k : Key) (c : Cluster) (ev : Ev) (now : Int)
    (hm : Mirror c r dm k) :
    (cStep cfg r dm k c ev now).2 = (sStep cfg.dmTTL (abs c r dm k) ev now).2 ∧
    abs (cStep cfg r dm k c ev now).1 r dm k = (sStep cfg.dmTTL (abs c r dm k) ev now).1 ∧
    Mirror (cStep cfg r dm k c ev now).1 r dm k := by
  cases ev with
  | lock tok timeout => exact lock_refines cfg r h c dm k tok timeout now hm
  | unlockFin tok => exact unlockFin_refines cfg r h c dm k tok now hm
  | leaseFin tok timeout => exact leaseFin_refines cfg r h c dm k tok timeout now hm

def cRun (cfg : Cfg) (r : Route) (dm : Bytes) (k : Key) (c : Cluster) : List (Ev × Int) → Cluster × List LockRes
  | [] => (c, [])
  | (ev, now) :: rest =>
    let (c1, res) := cStep cfg r dm k c ev now
    let (c2, ress) := cRun cfg r dm k c1 rest
    (c2, res :: ress)

def sRun (dmTTL : Int) (s : LState) : List (Ev × Int) → LState × List LockRes
  | [] => (s, [])
  | (ev, now) :: rest =>
    let (s1, res) := sStep dmTTL s ev now
    let (s2, ress) := sRun dmTTL s1 rest
    (s2, res :: ress)

/-- **C08 (refinement of whole histories).**  Every history of lock steps on the cluster model — in a
    stable healthy cluster, for every replica count, quorum setting and read-repair setting — produces
    exactly the replies of the abstract lock and ends in a cluster whose owner stores the abstract
    lock's state, mirrored on every backup owner.  All statements about histories of the abstract lock
    therefore hold for the cluster model. -/
theorem C08_refines (cfg : Cfg) (r : Route) (h : Healthy cfg r) (dm : Bytes) (k : Key) (hist : List (Ev × Int))
    (c : Cluster) (hm : Mirror c r dm k) :
    (cRun cfg r dm k c hist).2 = (sRun cfg.dmTTL (abs c r dm k) hist).2 ∧
    abs (cRun cfg r dm k c hist).1 r dm k = (sRun cfg.dmTTL (abs c r dm k) hist).1 ∧
    Mirror (cRun cfg r dm k c hist).1 r dm k := by
  induction hist generalizing c with
  | nil => exact ⟨rfl, rfl, hm⟩
  | cons e rest ih =>
    obtain ⟨ev, now⟩ := e
    obtain ⟨r1, r2, r3⟩ := cStep_refines cfg r h dm k c ev now hm
    obtain ⟨i1, i2, i3⟩ := ih (cStep cfg r dm k c ev now).1 r3
    dsimp only [cRun, sRun]
    rw [r2] at i1 i2
    exact ⟨by rw [i1, r1], i2, i3⟩

/-- the belief component of `run` is computed from the replies only: `run` and `sRun` walk the same states -/
theorem run_state (dmTTL : Int) (hist : List (Ev × Int)) (sb : LState × Bel) :
    (run dmTTL sb hist).1 = (sRun dmTTL sb.1 hist).1 := by
  induction hist generalizing sb with
  | nil => rfl
  | cons e rest ih => simp only [run, sRun, ih, gStep_eq]

/-- Unlock and Lease executed at one instant are the two halves in sequence (definitional) -/
theorem C08_unlock_is_chk_fin (cfg : Cfg) (r : Route) (c : Cluster) (dm : Bytes) (k : Key) (tok : Bytes) (now : Int) :
    unlock cfg r allReach c dm k tok now =
      (match unlockChk cfg r allReach c dm k tok now with
       | (c1, some e) => (c1, e)
       | (c1, none) => unlockFin cfg r c1 dm k tok now) := rfl

theorem C08_lease_is_chk_fin (cfg : Cfg) (r : Route) (c : Cluster) (dm : Bytes) (k : Key) (tok : Bytes) (timeout now : Int) :
    lease cfg r allReach c dm k tok timeout now =
      (match leaseChk cfg r allReach c dm k tok now with
       | (c1, some e) => (c1, e)
       | (c1, none) => leaseFin cfg r allReach c1 dm k tok timeout now) := rfl

/-- where the code finishes Unlock / Lease (regenerated from the source on every run): the token is compared
    once more under the owner's fragment lock, together with the delete / the expiry update — the two
    second-half steps `unlockFin` / `leaseFin` are atomic steps of that shape -/
theorem facts_tie : Facts.lock_release_compares_under_fragment_lock = true := by decide

/-! Non-vacuity: R = 2, a lock with a 500 ms timeout taken at t = 1 s through the model; a competitor at
    1.499 s is refused, at 1.5 s it acquires; the first holder's delayed Unlock then answers no-such-lock
    and leaves the competitor's lock in place. -/
def cA : Cluster := (lock cfg1 r1 allReach Cluster.empty [100] [76] [1] 500000000 1000000000).1
example : (lock cfg1 r1 allReach Cluster.empty [100] [76] [1] 500000000 1000000000).2 = .acquired := by decide
example : (lock cfg1 r1 allReach cA [100] [76] [2] 0 1499000000).2 = .notAcquired := by decide
example : (lock cfg1 r1 allReach cA [100] [76] [2] 0 1500000000).2 = .acquired := by decide
example : (unlockFin cfg1 r1 (lock cfg1 r1 allReach cA [100] [76] [2] 0 1500000000).1 [100] [76] [1] 1500000000).2 = .noSuchLock := by decide
example : ((unlockFin cfg1 r1 (lock cfg1 r1 allReach cA [100] [76] [2] 0 1500000000).1 [100] [76] [1] 1500000000).1.copy 1 .prim [100] [76]).map (·.val)
    = some [2] := by decide

end Olric.C08
