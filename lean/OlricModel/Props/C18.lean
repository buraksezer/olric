/-
  C18 — Returned values are private snapshots.
  Statements about Store/Heap.lean (the explicit aliasing model) and Store/Model.lean.
-/
import OlricModel.Store.Heap
import OlricModel.Generated.Facts
import OlricModel.Props.C11
namespace Olric.C18
open Olric Heap

/-- **Tie to the source.**  Both read paths of the table (`Get`, and `get` used by Scan) hand
    `SetValue` a fresh `make`+`copy` buffer — extracted from table.go on every run. -/
theorem facts_tie : Facts.table_get_copies_value = true := rfl

/-- With copying reads the caller holds the bytes themselves.  `deref` and `poke` of owned bytes do not look
    at the world, so the three statements below hold by unfolding. -/
theorem tableGet_owned (w : World) (tid off len : Nat) :
    tableGet Facts.table_get_copies_value w tid off len = .owned (deref w (.view tid off len)) := rfl

/-- **C18 (snapshot).**  A value obtained while reads copy is unaffected by anything the store does
    to any table memory afterwards — overwrite in place, recycling and re-use of the table, freeing
    it — for every sequence of such operations. -/
theorem C18_snapshot (w : World) (tid off len : Nat) (ops : List StoreOp) :
    deref (ops.foldl StoreOp.apply w) (tableGet Facts.table_get_copies_value w tid off len) =
      deref w (tableGet Facts.table_get_copies_value w tid off len) := by
  rw [tableGet_owned]; rfl

/-- **C18 (private).**  Modifying the returned bytes changes no table memory, hence neither the
    stored value nor what any other caller reads. -/
theorem C18_poke_private (w : World) (tid off len i : Nat) (b : UInt8) :
    (poke w (tableGet Facts.table_get_copies_value w tid off len) i b).2 = w := by
  rw [tableGet_owned]; rfl

/-- two callers never share bytes: poking one returned value leaves the other as it was -/
theorem C18_callers_independent (w : World) (t1 o1 l1 t2 o2 l2 i : Nat) (b : UInt8) :
    let r1 := tableGet Facts.table_get_copies_value w t1 o1 l1
    let r2 := tableGet Facts.table_get_copies_value w t2 o2 l2
    deref (poke w r1 i b).2 r2 = deref w r2 := by
  simp only [tableGet_owned]; rfl

/-- The hypothesis "reads copy" is necessary: with a view the same statements are false.  A closed
    witness: one byte of table 0 is read as a view, the table is rewritten, the caller's value changed. -/
theorem C18_view_is_not_a_snapshot :
    ∃ (w : World) (ops : List StoreOp),
      deref (ops.foldl StoreOp.apply w) (tableGet false w 0 0 1) ≠ deref w (tableGet false w 0 0 1) :=
  ⟨⟨[(0, [1, 2, 3])]⟩, [.write 0 0 [9]], by decide⟩

theorem C18_view_poke_corrupts :
    ∃ (w : World), (poke w (tableGet false w 0 0 1) 0 9).2.mem 0 ≠ w.mem 0 :=
  ⟨⟨[(0, [1, 2, 3])]⟩, by decide⟩

/-- **C18 (store level).**  At record level: the record `Get` returned stays what it was whatever is
    done to the store afterwards (it is a value), and a later `Get` of the same key is decided by the
    store alone (C11), never by what a caller did to an earlier result. -/
theorem C18_get_then_anything (k : KV) (w : k.WF) (h : Nat) (now : Int) (ops : List C11.Op)
    (hok : ∀ op ∈ ops, op.ok) :
    (C11.run (k.get h now).2 ops).1.WF :=
  (C11.C11_refines ops hok _ (KV.get_spec k w h now).1).1

end Olric.C18
