/-
  C02 — Acknowledged writes survive the loss of up to ReplicaCount − 1 members.

  Composition of three facts:
    (a) C04: an acknowledged write left the same entry on the owner and on every backup owner, and
        nowhere else (`Stored`);
    (b) C13: the routing table computed after the failures keeps every surviving holder listed (a listed
        owner / backup owner is dropped only when it is gone or reports zero keys) — `C02_survivor_listed_*`;
    (c) a Get over ANY route that lists at least one surviving holder with the right kind of
        copy, over a cluster state in which the survivors still hold what they held, answers with the
        acknowledged entry (`C02_survives`); since fewer than R members failed, a survivor exists
        (`C02_some_survivor`).  Deleted keys stay not-found because no copy exists anywhere
        (`C02_delete_survives`).
-/
import OlricModel.Props.C09
import OlricModel.Props.C13
namespace Olric.C02
open Olric Olric.DMap Olric.C04 Olric.C09

/-- after an acknowledged write in a healthy cluster (C04_put_written): the entry is on the owner's primary
    fragment and on every backup owner's backup fragment, and no other copy of the key exists -/
structure Stored (c : Cluster) (r : Route) (dm : Bytes) (k : Key) (x : Copy) : Prop where
  owner : c.copy r.owner .prim dm k = some x
  baks : ∀ b ∈ r.baks, c.copy b .bak dm k = some x
  only_prim : ∀ m, m ≠ r.owner → c.copy m .prim dm k = none
  only_bak : ∀ m, m ∉ r.baks → c.copy m .bak dm k = none

theorem stored_any_copy {c : Cluster} {r : Route} {dm : Bytes} {k : Key} {x : Copy} (h : Stored c r dm k x)
    (m : Nat) (kind : Kind) : c.copy m kind dm k = none ∨ c.copy m kind dm k = some x := by
  cases kind with
  | prim => exact if e : m = r.owner then .inr (e ▸ h.owner) else .inl (h.only_prim m e)
  | bak => exact if e : m ∈ r.baks then .inr (h.baks m e) else .inl (h.only_bak m e)

theorem get_all_same (cfg : Cfg) (r : Route) (reach : Reach) (c : Cluster) (dm : Bytes) (k : Key) (now : Int) (x : Copy)
    (hq : cfg.RQ ≤ 1) (hlive : expired x.ttl now = false)
    (hall : ∀ v ∈ versions r reach c dm k now, v.2.2 = none ∨ v.2.2 = some x)
    (hone : ∃ v ∈ versions r reach c dm k now, v.2.2 = some x) :
    ∃ w, (get cfg r reach c dm k now).2 = .val w ∧ w = x := by
  refine ⟨x, ?_, rfl⟩
  rw [get_snd]
  refine answer_all_same hall hone ?_ hlive
  obtain ⟨v, hv, hx⟩ := hone
  exact Nat.le_trans hq (List.length_pos_of_mem (mem_copies_of hv hx))

/-- **C02 (survival).**  Before the failures the entry was `Stored` under route `r`.  Members then fail;
    the survivors still hold what they held (`c` is unchanged on them; failed members are simply no longer
    asked).  For ANY new route `r'` — whoever the new owner is, whatever previous owners and new backup
    owners it lists — under which every listed member is reachable and at least one surviving holder is
    listed with the kind of copy it holds, a Get answers with the acknowledged entry: not an older value,
    not not-found. -/
theorem C02_survives (cfg : Cfg) (r r' : Route) (c : Cluster) (dm : Bytes) (k : Key) (x : Copy) (now : Int)
    (hs : Stored c r dm k x) (hq : cfg.RQ ≤ 1) (hlive : expired x.ttl now = false)
    (hsurv : r.owner ∈ r'.prims ∨ ∃ b ∈ r.baks, b ∈ r'.baks) (hne : r'.prims ≠ []) :
    ∃ w, (get cfg r' allReach c dm k now).2 = .val w ∧ w = x := by
  have hlx : ∀ m kind, c.copy m kind dm k = some x → live (c.copy m kind dm k) now = some x :=
    fun m kind h => live_eq_some.mpr ⟨h, hlive⟩
  apply get_all_same cfg r' allReach c dm k now x hq hlive
  · intro v hv
    rw [(mem_versions hv).1]
    exact (stored_any_copy hs v.1 v.2.1).imp (fun h => by rw [h]; rfl) (hlx _ _)
  · rcases hsurv with ho | ⟨b, hb, hb'⟩
    · -- the old owner is listed among the primary owners: as a previous owner, or as the owner
      rw [Route.prims_eq hne] at ho
      rcases List.mem_append.mp ho with hp | hp
      · exact ⟨_, prev_mem_versions hp rfl (hlx _ _ hs.owner), rfl⟩
      · rw [List.mem_singleton] at hp
        exact ⟨_, owner_mem_versions, by rw [← hp]; exact hlx _ _ hs.owner⟩
    · exact ⟨_, bak_mem_versions hb' rfl, hlx _ _ (hs.baks b hb)⟩

/-- fewer failures than holders: a holder survives (pigeonhole over distinct holders) -/
theorem C02_some_survivor (r : Route) (failed : List Nat) (hnd : (r.owner :: r.baks).Nodup)
    (hfew : failed.length < (r.owner :: r.baks).length) :
    r.owner ∉ failed ∨ ∃ b ∈ r.baks, b ∉ failed := by
  -- otherwise every holder is among the failed members, which are fewer
  refine Classical.byContradiction fun hn => absurd (hnd.length_le_of_subset fun a ha => ?_) (Nat.not_le.mpr hfew)
  exact Classical.byContradiction fun haf => hn <| (List.mem_cons.mp ha).elim
    (fun e => .inl (e ▸ haf)) (fun h => .inr ⟨a, h, haf⟩)

/-- **C02 (acknowledged Delete).**  After an acknowledged Delete no copy of the key exists on any member
    (C04 / copy_del): whatever members fail and however the key is routed afterwards, it reads not-found. -/
theorem C02_delete_survives (cfg : Cfg) (r' : Route) (c : Cluster) (dm : Bytes) (k : Key) (now : Int)
    (hgone : ∀ m kind, c.copy m kind dm k = none) (hq : cfg.RQ ≤ r'.baks.length + 1) :
    (get cfg r' allReach c dm k now).2 = .notFound :=
  (C09_invisible_after cfg r' c dm k now (fun m kind => by rw [hgone m kind]; rfl) hq).1

/-- a Delete that reaches the backup owners (R > 1, or none listed) leaves no copy on the members it was routed
    over — `Stored` before, nothing after -/
theorem C02_delete_removes_all (cfg : Cfg) (r : Route) (c : Cluster) (dm : Bytes) (k : Key) (x : Copy)
    (hs : Stored c r dm k x) (hRb : cfg.R > 1 ∨ r.baks = []) :
    ∀ m kind, (del cfg r c dm k).copy m kind dm k = none := by
  intro m kind
  rw [copy_del, ite_eq_left_iff]
  -- a slot the Delete does not reach holds nothing to begin with
  intro hn
  cases kind with
  | prim => exact hs.only_prim m fun e => hn ⟨.inl ⟨e, rfl⟩, rfl, rfl⟩
  | bak => exact hs.only_bak m fun hm => hn ⟨.inr (.inr ⟨hRb.resolve_right (List.ne_nil_of_mem hm), hm, rfl⟩), rfl, rfl⟩

open Olric.Routing in
/-- a previous owner that is still a live member and reports keys stays in the primary owners list -/
theorem C02_survivor_listed_primary (live : List Mem) (count : Mem → Option Nat) (owners : List Mem) (ro o : Mem)
    (hne : owners ≠ []) (ho : o ∈ owners) (ha : alive live o = true) (hc : count o ≠ some 0) :
    ∃ o' ∈ distributePrimary live count owners ro, o'.id = o.id :=
  C13.distributePrimary_keeps_holder live count owners ro o ho ha hc

open Olric.Routing in
/-- a backup owner that is still a live member and reports keys stays in the backup owners list -/
theorem C02_survivor_listed_backup (live : List Mem) (count : Mem → Option Nat) (owners : List Mem) (cs : List Mem) (o : Mem)
    (hnd : (owners.map (·.id)).Nodup) (hcs : (cs.tail.map (·.id)).Nodup)
    (hne : owners ≠ []) (ho : o ∈ owners) (ha : alive live o = true) (hc : count o ≠ some 0) :
    ∃ o' ∈ distributeBackups live count owners (some cs), o'.id = o.id :=
  C13.distributeBackups_keeps_holder live count owners cs o ho ha hc

/-! Non-vacuity: R = 3 (owner 2, backups 0 and 1); the owner and backup 0 fail; the new owner is member 3
    (empty), the surviving backup 1 is still listed: the Get on member 3 answers the acknowledged entry. -/
def cS : Cluster := (put { R := 3, W := 1 } ⟨[2], [0, 1]⟩ allReach Cluster.empty [100] [107] [7] {} 5).1
example : (get { R := 3 } ⟨[3], [1, 4]⟩ allReach cS [100] [107] 9).2 = .val ⟨[7], 0, 5⟩ := by decide
example : (2 ∉ [2, 0]) ∨ ∃ b ∈ [0, 1], b ∉ [2, 0] := C02_some_survivor ⟨[2], [0, 1]⟩ [2, 0] (by decide) (by decide)

end Olric.C02
