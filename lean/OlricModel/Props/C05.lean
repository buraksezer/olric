/-
  C05 — Read, write and member-count quorums are enforced exactly.
  Statements about DMap/Model.lean (replicate / get) and a one-line model of the request guard.
-/
import OlricModel.Proofs.DMapLemmas
import OlricModel.Generated.Facts
namespace Olric.C05
open Olric Olric.DMap

/-- copies a synchronous Put stores: one per reachable backup owner plus the owner's own -/
def stored (cfg : Cfg) (r : Route) (reach : Reach) : Nat :=
  if cfg.R > 1 then (r.baks.filter reach).length + 1 else 1

/-- **C05 (write quorum).**  For every subset of unreachable backup owners: the Put is acknowledged
    iff at least WriteQuorum copies were stored, and fails with the write-quorum error — nothing else —
    otherwise.  In particular an unreachable backup does not fail a Put whose quorum is still met. -/
theorem C05_write_iff (cfg : Cfg) (hR : cfg.R > 1) (r : Route) (reach : Reach) (c : Cluster) (dm : Bytes) (k : Key) (e : Copy) :
    ((replicate cfg r reach c dm k e).2 = .ok ↔ stored cfg r reach ≥ cfg.W) ∧
    ((replicate cfg r reach c dm k e).2 ≠ .ok → (replicate cfg r reach c dm k e).2 = .writeQuorum) := by
  rw [replicate_snd, stored, if_pos hR]
  by_cases hW : (r.baks.filter reach).length + 1 < cfg.W
  · rw [if_pos ⟨hR, hW⟩]
    exact ⟨⟨nofun, fun h => absurd hW (Nat.not_lt.mpr h)⟩, fun _ => rfl⟩
  · rw [if_neg fun h => hW h.2]
    exact ⟨⟨fun _ => Nat.le_of_not_lt hW, fun _ => rfl⟩, fun h => absurd rfl h⟩

/-- with a single replica there is nothing to wait for -/
theorem C05_write_single (cfg : Cfg) (hR : ¬ cfg.R > 1) (r : Route) (reach : Reach) (c : Cluster) (dm : Bytes) (k : Key) (e : Copy) :
    (replicate cfg r reach c dm k e).2 = .ok := by
  rw [replicate_snd, if_neg (fun h => hR h.1)]

/-- the copies the acknowledgement counts are really there: the owner's, and every reachable backup's -/
theorem C05_write_copies (cfg : Cfg) (hR : cfg.R > 1) (r : Route) (reach : Reach) (c : Cluster) (dm : Bytes) (k : Key) (e : Copy) :
    (replicate cfg r reach c dm k e).1.copy r.owner .prim dm k = some e ∧
    (∀ b ∈ r.baks, reach b = true → (replicate cfg r reach c dm k e).1.copy b .bak dm k = some e) ∧
    (∀ b, reach b = false → (replicate cfg r reach c dm k e).1.copy b .bak dm k = c.copy b .bak dm k) := by
  refine ⟨by rw [copy_owner_replicate, if_pos rfl], fun b hb hr => copy_bak_replicate hR hb hr, fun b hr => ?_⟩
  rw [copy_replicate]; simp [hr]

/-- answers a read obtained -/
def answers (r : Route) (reach : Reach) (c : Cluster) (dm : Bytes) (k : Key) (now : Int) : Nat :=
  (versions r reach c dm k now).length
/-- copies of the key among them (`(copies (versions …)).length`, written out) -/
def present (r : Route) (reach : Reach) (c : Cluster) (dm : Bytes) (k : Key) (now : Int) : Nat :=
  ((versions r reach c dm k now).filterMap (fun v => v.2.2.map (fun x => (v.1, v.2.1, x)))).length

/-- **C05 (read quorum).**  A value is returned only if at least ReadQuorum copies of the key were
    obtained; fewer than ReadQuorum answering members, or a key that exists with fewer than ReadQuorum
    copies obtained, is the read-quorum error; a key no answering member holds is not-found. -/
theorem C05_read (cfg : Cfg) (r : Route) (reach : Reach) (c : Cluster) (dm : Bytes) (k : Key) (now : Int) :
    (∀ w, (get cfg r reach c dm k now).2 = .val w → present r reach c dm k now ≥ cfg.RQ ∧ answers r reach c dm k now ≥ cfg.RQ) ∧
    (answers r reach c dm k now < cfg.RQ → (get cfg r reach c dm k now).2 = .readQuorum) ∧
    (answers r reach c dm k now ≥ cfg.RQ → present r reach c dm k now = 0 → (get cfg r reach c dm k now).2 = .notFound) ∧
    (answers r reach c dm k now ≥ cfg.RQ → 0 < present r reach c dm k now → present r reach c dm k now < cfg.RQ →
        (get cfg r reach c dm k now).2 = .readQuorum) := by
  rw [get_snd]
  refine ⟨fun w hw => ?_, answer_of_lt, fun h h0 => answer_of_nil h (List.length_eq_zero_iff.mp h0),
    fun _ h0 h1 => answer_of_few (List.ne_nil_of_length_pos h0) h1⟩
  obtain ⟨_, _, _, _, hq, _⟩ := answer_val hw
  exact ⟨hq, Nat.le_trans hq (copies_length_le _)⟩

/-- server.Handler.ServeRESP + olric.preconditionFunc / dmap.NewDMap: every request that arrives over
    the network (except the coordinator's routing push) and every NewDMap is answered with the
    cluster-quorum error, and the handler does not run, while fewer than MemberCountQuorum members are seen -/
def guarded {σ ρ : Type} (numMembers mcq : Int) (isUpdateRouting : Bool) (cq : ρ) (handler : σ → σ × ρ) (s : σ) : σ × ρ :=
  if isUpdateRouting then handler s
  else if mcq > numMembers then (s, cq)
  else handler s

theorem C05_member_quorum {σ ρ : Type} (numMembers mcq : Int) (cq : ρ) (handler : σ → σ × ρ) (s : σ)
    (h : numMembers < mcq) : guarded numMembers mcq false cq handler s = (s, cq) := by
  simp [guarded, h]

theorem C05_member_quorum_met {σ ρ : Type} (numMembers mcq : Int) (cq : ρ) (handler : σ → σ × ρ) (s : σ)
    (h : mcq ≤ numMembers) : guarded numMembers mcq false cq handler s = handler s := by
  rw [guarded, if_neg Bool.false_ne_true, if_neg (Int.not_lt.mpr h)]

/-- **Tie to the source (regenerated on every run).**  `guarded` is the shape of
    server.Handler.ServeRESP: the handler runs only behind the precondition, except for the routing
    push; the precondition and NewDMap both start with the member-count check; a failing backup
    owner does not abort the replication loop (it is counted), backups are written before the local copy. -/
theorem facts_tie :
    Facts.serve_resp_precond_guards_handler = true ∧ Facts.serve_resp_bypass_only_update_routing = true ∧
    Facts.is_operable_checks_member_quorum = true ∧ Facts.newdmap_checks_member_quorum_first = true ∧
    Facts.sync_put_aborts_on_backup_error = false ∧ Facts.sync_put_backups_before_local = true ∧
    Facts.precondition_set_before_handlers_are_registered = true :=
  ⟨rfl, rfl, rfl, rfl, rfl, rfl, rfl⟩

/-! Non-vacuity: R = 3, W = 2, one backup unreachable — acknowledged; both unreachable — write quorum -/
example : (replicate { R := 3, W := 2 } ⟨[2], [0, 1]⟩ (fun m => m != 0) Cluster.empty [100] [107] ⟨[1], 0, 5⟩).2 = .ok := by decide
example : (replicate { R := 3, W := 2 } ⟨[2], [0, 1]⟩ (fun _ => false) Cluster.empty [100] [107] ⟨[1], 0, 5⟩).2 = .writeQuorum := by decide

end Olric.C05
