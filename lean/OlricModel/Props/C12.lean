/-
  C12 — A full scan returns every stable key exactly once and nothing else.
  Statements about Store/Model.lean, and (C12_client_iterator) about how the client iterator combines the pages of
  the owners of a partition (Cluster/Iterator.lean).
-/
import OlricModel.Proofs.KVErase
import OlricModel.Proofs.KVScanInv
import OlricModel.Props.C11
import OlricModel.Proofs.IterProofs
import OlricModel.Generated.Facts
namespace Olric.C12
open Olric KV Table

/-- **C12 (one table).**  Iterating `Table.Scan` / `ScanRegexMatch` from any cursor until it answers
    0 yields every (matching) entry stored at or after the cursor exactly once, in offset order, for
    every page size ≥ 1 and every pattern, whatever holes deletes and overwrites left in the table;
    it terminates within (entries left + 1) pages.  Holds in every reachable state of the store. -/
theorem C12_table_walk (k : KV) (w : k.WF) (t : Table) (ht : t ∈ k.newestFirst) (m : Rec → Bool)
    (count : Nat) (hc : 1 ≤ count) (cursor : Nat) :
    walkTable m t.slots count ((t.slots.filter (fun s => decide (s.off ≥ cursor))).length + 1) cursor =
      (t.slots.filter (fun s => decide (s.off ≥ cursor))).filter (fun s => m s.r) :=
  walkTable_complete m t.slots count (sorted_of_layout (w.layout t ht)) hc _ cursor (Nat.lt_succ_self _)

/-- from cursor 0: exactly the matching entries of the table, each once -/
theorem C12_table_walk_all (k : KV) (w : k.WF) (t : Table) (ht : t ∈ k.newestFirst) (m : Rec → Bool)
    (count : Nat) (hc : 1 ≤ count) :
    walkTable m t.slots count (t.slots.length + 1) 0 = t.slots.filter (fun s => m s.r) := by
  have h := C12_table_walk k w t ht m count hc 0
  rwa [filter_ge_zero] at h

/-- the page function of the model is the one the walk theorem is about -/
theorem scan_eq_scanAux (t : Table) (cursor count : Nat) (m : Rec → Bool) (now : Int) :
    (t.scan cursor count m now).1 = (scanAux m (t.slots.filter (fun s => s.off ≥ cursor)) count cursor []).1 ∧
    (t.scan cursor count m now).2.1 = (scanAux m (t.slots.filter (fun s => s.off ≥ cursor)) count cursor []).2.map (·.r) :=
  ⟨rfl, rfl⟩

/-- **C12 (hop to the next table).**  When a table is exhausted the scan continues with the smallest
    registered coefficient above the current one — never skipping an existing table, whatever holes
    compaction and transfers left in the numbering — and ends only when there is none. -/
theorem C12_next_table (k : KV) (c : Nat) :
    (k.findCoefficient c = none ↔ ∀ x ∈ k.cfs, x ≤ c) ∧
    ∀ n, k.findCoefficient c = some n → n ∈ k.cfs ∧ c < n ∧ ∀ x ∈ k.cfs, c < x → n ≤ x :=
  KV.findCoefficient_spec k c

/-- the keys a full walk must produce are exactly the present keys, each in one table only (C11) -/
theorem C12_present_once (k : KV) (w : k.WF) :
    (k.rangeAll.map (·.1)).Nodup ∧ ∀ h r, (h, r) ∈ k.rangeAll ↔ k.lookup h = some r :=
  rangeAll_spec k w

/-- the invariant the composition needs — coefficients of the tables in use pairwise different and
    below `nextCf`, no table written beyond its allocation — is kept by every store operation ... -/
theorem C12_scaninv_step (k : KV) (w : k.WF) (si : k.ScanInv) (op : C11.Op) : KV.ScanInv (C11.step k op).1 :=
  C11.step_invariant KV.scanInv_invariant k w si op (by cases op <;> trivial)

/-- ... hence holds in every state reachable, by any operation sequence, from a store that has it (a fresh
    fragment store does: `KV.scanInv_fork`) -/
theorem C12_scaninv_run (ops : List C11.Op) (hok : ∀ op ∈ ops, op.ok) (k : KV) (w : k.WF) (si : k.ScanInv) :
    KV.ScanInv (C11.run k ops).1 :=
  C11.run_invariant ops hok (fun op _ k w si => C12_scaninv_step k w si op) k w si

/-- **C12 (full iteration of one fragment store).**  Run kvstore.Scan / ScanRegexMatch from cursor 0,
    feeding every returned cursor back, each page stamping lastAccess on what it yields, until the
    cursor is 0 again: for every page size ≥ 1 and every pattern on the key, in every reachable store
    state (any table layout: holes in the coefficients after compaction, tables of any fill, empty
    and recycled tables), the loop ends within (entries + tables + 1) pages and yields — lastAccess
    aside — exactly the matching entries of the tables in use, table by table in ascending order of
    coefficient, each entry once. -/
theorem C12_full_walk (k : KV) (w : k.WF) (si : k.ScanInv) (hT : 0 < k.tableSize) (m : Rec → Bool)
    (hm : LaInd m) (count : Nat) (hc : 1 ≤ count) (now : Nat → Int) (fuel : Nat) (hfuel : k.totalLen + 1 ≤ fuel) :
    (KV.walkKV m count now fuel 0 k).map Rec.core = ((k.startTables).flatMap (KV.yieldOf m)).map Rec.core := by
  have h0 := KV.walkP_fromCf k w si hT m count hc now fuel 0 (Nat.le_of_succ_le hfuel)
  rw [Nat.mul_zero] at h0
  -- the walk with and without the stamps agree up to `Rec.er`, which `Rec.core` does not see
  have h1 := congrArg (List.map Rec.core) (KV.walkKV_er m hm count now fuel 0 k si.cfd)
  rwa [h0, List.map_map, List.map_map] at h1

/-- the tables visited are exactly the tables in use, each once -/
theorem C12_tables_once (k : KV) (si : k.ScanInv) :
    (k.startTables).Perm (k.newestFirst.filter (fun t => !isRecycled t)) :=
  KV.startTables_perm k si.cfd

/-- **C12 (every present key exactly once, nothing else).**  The entries a full iteration yields
    are, lastAccess aside, a rearrangement of the entries of the present keys that match the pattern:
    by C12_present_once every present key has exactly one entry in that list, so every key present
    during the iteration is yielded exactly once and no deleted, superseded or never-stored key is. -/
theorem C12_full_walk_exactly_once (k : KV) (w : k.WF) (si : k.ScanInv) (hT : 0 < k.tableSize) (m : Rec → Bool)
    (hm : LaInd m) (count : Nat) (hc : 1 ≤ count) (now : Nat → Int) (fuel : Nat) (hfuel : k.totalLen + 1 ≤ fuel) :
    ((KV.walkKV m count now fuel 0 k).map Rec.core).Perm
      (((k.rangeAll.filter (fun p => m p.2)).map (·.2)).map Rec.core) := by
  rw [C12_full_walk k w si hT m hm count hc now fuel hfuel, rangeAll_filter k w m]
  exact ((C12_tables_once k si).flatMap_right _).map _

/-- stated on keys: a present matching key is yielded; whatever is yielded is a present matching key -/
theorem C12_full_walk_complete_sound (k : KV) (w : k.WF) (si : k.ScanInv) (hT : 0 < k.tableSize) (m : Rec → Bool)
    (hm : LaInd m) (count : Nat) (hc : 1 ≤ count) (now : Nat → Int) (fuel : Nat) (hfuel : k.totalLen + 1 ≤ fuel) :
    (∀ h r, k.lookup h = some r → m r = true → r.core ∈ (KV.walkKV m count now fuel 0 k).map Rec.core) ∧
    (∀ c ∈ (KV.walkKV m count now fuel 0 k).map Rec.core, ∃ h r, k.lookup h = some r ∧ m r = true ∧ r.core = c) := by
  have mem : ∀ c, c ∈ (KV.walkKV m count now fuel 0 k).map Rec.core ↔ ∃ h r, k.lookup h = some r ∧ m r = true ∧ r.core = c := by
    intro c
    rw [(C12_full_walk_exactly_once k w si hT m hm count hc now fuel hfuel).mem_iff]
    simp only [List.map_map, List.mem_map, List.mem_filter, (rangeAll_spec k w).2, Function.comp_apply, and_assoc, Prod.exists]
  exact ⟨fun h r hl hmr => (mem _).mpr ⟨h, r, hl, hmr, rfl⟩, fun c => (mem c).mp⟩

/-- **C12 (client iterator, one partition).**  For every set of owners on the iterator's route (primary owners, previous
    ones included, then replica owners) and whatever pages they answer until their cursor comes back 0: the iterator
    fetches every page of every owner exactly once and stops (`schedule_perm`: the fetched pages are a permutation of all
    pages, with the fuel the page count gives), hands out no key twice, and hands out exactly the keys that occur in some
    page of some owner.  With C12_full_walk_complete_sound for the pages of one owner: every key present on some listed
    owner during the whole iteration is yielded exactly once, and nothing else. -/
theorem C12_client_iterator {α : Type} [DecidableEq α] (os : List (List (List α))) (hne : ∀ o ∈ os, o ≠ []) :
    (Iter.iterate os).Nodup ∧ (∀ k, k ∈ Iter.iterate os ↔ ∃ o ∈ os, ∃ p ∈ o, k ∈ p) ∧
    (Iter.schedule (Iter.total os + 1) os).Perm os.flatten := by
  have hp := Iter.schedule_perm (Iter.total os + 1) os hne (Nat.lt_succ_self _)
  refine ⟨Iter.foldl_emit_nodup _ [] List.nodup_nil, fun k => ?_, hp⟩
  -- handed out are the keys on the fetched pages, and the fetched pages are all the pages
  unfold Iter.iterate
  simp only [Iter.mem_foldl_emit, hp.mem_iff, List.mem_flatten, List.not_mem_nil, false_or]
  constructor
  · rintro ⟨p, ⟨o, ho, hpo⟩, hk⟩; exact ⟨o, ho, p, hpo, hk⟩
  · rintro ⟨o, ho, p, hpo, hk⟩; exact ⟨p, ⟨o, ho, hpo⟩, hk⟩

/-- the shape `Iter.schedule` / `Iter.emit` follow, regenerated from cluster_iterator.go and embedded_iterator.go on every run -/
theorem facts_tie : Facts.client_iterator_walks_remaining_owners_once = true := by decide

/-- a previous owner with one page, the current owner with three (COUNT 1: a new key, the overwritten old key, a new
    key - the shape of F47), a replica owner with an empty page: four distinct keys, each once -/
example : Iter.iterate [[[1]], [[2], [1], [3]], [[]], [[1, 2], [3, 4]]] = [1, 2, 3, 4] := by decide
example : ∀ o ∈ ([[[1]], [[2], [1], [3]], [[]], [[1, 2], [3, 4]]] : List (List (List Nat))), o ≠ [] := by decide

example : walkTable (fun _ => true)
    [⟨1, 0, C11.recA⟩, ⟨2, 40, C11.recA⟩, ⟨3, 90, C11.recA⟩] 2 4 0 =
    [⟨1, 0, C11.recA⟩, ⟨2, 40, C11.recA⟩, ⟨3, 90, C11.recA⟩] := by decide

/-- the demo store of C11 (two tables, an overwrite across tables, a delete, a compaction step):
    the hypotheses hold, and the iteration with one entry per page yields its two present keys -/
example : KV.ScanInv (C11.run (KV.fork 256 1000) C11.demoOps).1 :=
  C12_scaninv_run C11.demoOps C11.demoOps_ok _ (fork_wf 256 1000) (KV.scanInv_fork 256 1000)
example : LaInd (fun r => r.key == [97]) := fun _ => rfl
set_option maxRecDepth 100000 in
example : (KV.walkKV (fun _ => true) 1 (fun _ => 50) 6 0 (C11.run (KV.fork 256 1000) C11.demoOps).1).map (·.key) =
    [[97], [97]] := by decide
set_option maxRecDepth 100000 in
example : ((C11.run (KV.fork 256 1000) C11.demoOps).1.rangeAll.map (·.1)) = [2, 1] := by decide

end Olric.C12
