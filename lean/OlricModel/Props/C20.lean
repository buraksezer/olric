/-
  C20 — Storage stays bounded under overwrite and delete churn.
-/
import OlricModel.Props.C11
import OlricModel.Proofs.KVFull
import OlricModel.Generated.Facts
namespace Olric.C20
open Olric KV Table

/-- **C20 (accounting).**  In every state reachable by any operation sequence (C11_refines gives `WF`),
    for every table: the bytes in use are exactly the bytes of its live records, and every byte ever
    written to the table is either in use or accounted as garbage.  A superseding write, a delete, a
    replica (raw) write and a compaction move therefore each turn the old record's bytes into garbage. -/
theorem C20_accounting (k : KV) (w : k.WF) :
    ∀ t ∈ k.newestFirst, t.inuse = sumSize t.slots ∧ t.inuse + t.garbage = t.off :=
  fun t ht => ⟨w.acct t ht, w.tot t ht⟩

/-- the accounting invariant holds after every run from a fresh fragment store -/
theorem C20_accounting_run (size : Nat) (idle : Int) (ops : List C11.Op) (hok : ∀ op ∈ ops, op.ok) :
    ∀ t ∈ (C11.run (KV.fork size idle) ops).1.newestFirst,
      t.inuse = sumSize t.slots ∧ t.inuse + t.garbage = t.off :=
  C20_accounting _ (C11.C11_refines_fork size idle ops hok).1

/-- one overwrite, seen from the table that held the old version: its bytes move to garbage -/
theorem C20_supersede (t : Table) (h : Nat) (s : Slot) (hf : t.find h = some s)
    (hn : (t.slots.map (·.hk)).Nodup) (ha : t.inuse = sumSize t.slots) :
    (t.deleteD h).garbage = t.garbage + s.r.size ∧ (t.deleteD h).inuse + s.r.size = t.inuse := by
  have hg := (deleteD_found hf).1
  have hb := (deleteD_bytes t h hn ha).2
  rw [hg, ← Nat.add_assoc, Nat.add_right_comm] at hb
  exact ⟨hg, Nat.add_right_cancel hb⟩

/-- **C20 (compaction completes only below the threshold).**  `Compaction` answers done = true only
    when no table other than the read-write head holds 40 % garbage or more (exactly when `needsCompaction`
    selects none: `KV.compaction_done_iff`); otherwise it drains one batch of the oldest selected table (and
    never changes the contents: C11). -/
theorem C20_done_below_threshold (k : KV) (now : Int) (order : List Nat)
    (hd : (k.compaction now order).2 = true) : ∀ t ∈ k.old, t.garbage * 5 < t.alloc * 2 :=
  fun t ht => ((needsCompaction_eq_false t).mp ((compaction_done_iff k now order).mp hd t ht)).2

/-- **C20 (no dead table is kept).**  When `Compaction` answers done, a table behind the head that holds no live
    entry carries no garbage either: it is blank (recycled, waiting to be reused or freed).  Before the repair
    6031b9a a table retired nearly empty — the entry that did not fit was a large one — stayed allocated forever once
    its few entries were superseded: it never reached the 40 % ratio (finding F44; `dead_table_witness` below). -/
theorem C20_done_no_dead_table (k : KV) (w : k.WF) (now : Int) (order : List Nat)
    (hd : (k.compaction now order).2 = true) : ∀ t ∈ k.old, t.slots = [] → t.garbage = 0 ∧ t.off = 0 := by
  intro t ht hs
  have h := (needsCompaction_eq_false t).mp ((compaction_done_iff k now order).mp hd t ht)
  have hi := (inuse_eq_zero_iff (w.acct t (mem_of_old ht))).mpr hs
  have hg := h.1 hi
  exact ⟨hg, by rw [← w.tot t (mem_of_old ht), hi, hg]⟩

/-- ... hence the tables in use behind the head are at most as many as the present keys: each holds a live entry
    of its own (the entries of different tables belong to different keys: C11 uniqueness). -/
theorem C20_tables_le_keys (k : KV) (w : k.WF) (now : Int) (order : List Nat)
    (hd : (k.compaction now order).2 = true) :
    (k.old.filter (fun t => decide (t.off > 0))).length ≤ k.stats.length := by
  have hlen : cnt k.old ≤ k.stats.length := by rw [stats_length_split]; exact Nat.le_add_left _ _
  refine Nat.le_trans (length_filter_le_sum _ _ k.old fun t ht hpos => List.length_pos_iff.mpr fun e => ?_) hlen
  -- an empty table behind the head would have `off = 0`
  rw [(C20_done_no_dead_table k w now order hd t ht e).2] at hpos
  cases hpos

/-- the table the repaired predicate is about: no live entry, 79 bytes of garbage in 1000 — below the ratio, so the
    ratio alone (`garbage * 5 ≥ alloc * 2`) never selects it, the predicate of the code now does -/
def deadTable : Table := { cf := 0, off := 79, alloc := 1000, inuse := 0, garbage := 79, state := .ro, recycledAt := 0, slots := [] }
theorem dead_table_witness : decide (deadTable.garbage * 5 ≥ deadTable.alloc * 2) = false ∧ needsCompaction deadTable = true := by
  decide

/-- **C20 (per-table bound).**  A table that is below the compaction threshold and was retired because
    an entry of at most `E` bytes did not fit any more carries live data for at least 60 % of its size
    minus `E`:  3·alloc < 5·inuse + 5·E + 1.  (The "retired ⇒ nearly full" premise is the guard of
    table.Put; a hypothesis here, the invariant `KV.Churn` in `C20_bound_reachable`.) -/
theorem C20_table_bound (t : Table) (E : Nat) (hacc : t.inuse + t.garbage = t.off)
    (hthr : t.garbage * 5 < t.alloc * 2) (hfull : t.off + E ≥ t.alloc) :
    3 * t.alloc < 5 * t.inuse + 5 * E + 1 := by omega

/-- ... for every table behind the head of a store whose compaction is done: the threshold comes from `done`,
    the accounting from `WF` -/
theorem C20_bound (k : KV) (w : k.WF) (now : Int) (order : List Nat) (E : Nat)
    (hd : (k.compaction now order).2 = true)
    (hfull : ∀ t ∈ k.old, t.off + E ≥ t.alloc ∨ t.slots = []) :
    ∀ t ∈ k.old, t.slots ≠ [] → 3 * t.alloc < 5 * t.inuse + 5 * E + 1 := by
  intro t ht hne
  have h1 := C20_done_below_threshold k now order hd t ht
  have h2 := w.tot t (mem_of_old ht)
  rcases hfull t ht with h | h
  · exact C20_table_bound t E h2 h1 h
  · exact absurd h hne

/-- the entries a workload writes are at most `E` bytes long (29 + key + value) -/
def sizeLe (E : Nat) : C11.Op → Prop
  | .put _ r _ => r.size ≤ E
  | .putRaw _ r => r.size ≤ E
  | _ => True

/-- **C20 (a retired table is nearly full), one step.**  Every store operation keeps: each table
    behind the head has less than `E` bytes of room left or is empty, and every stored entry is at
    most `E` bytes long — `E` being a bound on the entries the workload writes. -/
theorem C20_nearfull_step (E : Nat) (k : KV) (w : k.WF) (c : KV.Churn E k) (op : C11.Op) (hsz : sizeLe E op) :
    KV.Churn E (C11.step k op).1 :=
  C11.step_invariant (KV.churn_invariant E) k w c op (by cases op <;> exact hsz)

/-- ... hence in every state a churn workload can reach, of any length -/
theorem C20_nearfull_run (E : Nat) (ops : List C11.Op) (hok : ∀ op ∈ ops, op.ok) (hsz : ∀ op ∈ ops, sizeLe E op)
    (k : KV) (w : k.WF) (c : KV.Churn E k) : KV.Churn E (C11.run k ops).1 :=
  C11.run_invariant ops hok (fun op hop k w c => C20_nearfull_step E k w c op (hsz op hop)) k w c

/-- **C20 (bound, every reachable state).**  After any workload of inserts, raw inserts, reads,
    deletes, expiry updates and compaction calls, in any order and of any length, whose entries are
    at most `E` bytes long: once `Compaction` answers done, every non-empty table behind the head holds
    live data for more than 60 % of its size minus `E` bytes — 3·alloc < 5·inuse + 5·E + 1.  No
    hypothesis about the tables is left: "retired ⇒ nearly full" is the invariant `KV.Churn`. -/
theorem C20_bound_reachable (E size : Nat) (idle : Int) (ops : List C11.Op) (hok : ∀ op ∈ ops, op.ok)
    (hsz : ∀ op ∈ ops, sizeLe E op) (now : Int) (order : List Nat)
    (hd : ((C11.run (KV.fork size idle) ops).1.compaction now order).2 = true) :
    ∀ t ∈ (C11.run (KV.fork size idle) ops).1.old, t.slots ≠ [] → 3 * t.alloc < 5 * t.inuse + 5 * E + 1 := by
  have w := (C11.C11_refines_fork size idle ops hok).1
  have c := C20_nearfull_run E ops hok hsz _ (fork_wf size idle) (KV.churn_fork E size idle)
  exact C20_bound _ w now order E hd c.full

/-- summed over the tables behind the head: 3·(allocated) ≤ 5·(bytes in use) + (5·E + 1)·(tables),
    empty tables aside -/
theorem C20_bound_sum (E : Nat) (ts : List Table)
    (h : ∀ t ∈ ts, 3 * t.alloc < 5 * t.inuse + 5 * E + 1) :
    3 * (ts.map (·.alloc)).sum ≤ 5 * (ts.map (·.inuse)).sum + (5 * E + 1) * ts.length := by
  induction ts with
  | nil => exact Nat.le_refl _
  | cons t ts ih =>
    obtain ⟨h1, h2⟩ := List.forall_mem_cons.mp h
    simp only [List.map_cons, List.sum_cons, List.length_cons]
    rw [Nat.mul_add, Nat.mul_add, Nat.mul_add, Nat.mul_one, Nat.add_comm (_ * ts.length), ← Nat.add_add_add_comm]
    exact Nat.add_le_add (Nat.le_of_lt h1) (ih h2)

/-- **C20 (recycling).**  A new table is allocated only when no recycled one exists: with a recycled
    table present `makeTable` leaves the number of tables unchanged. -/
theorem C20_reuse (k : KV) (t : Table) (rest : List Table)
    (hp : pickLast isRecycled k.demoted = some (t, rest)) :
    k.makeTable.tables.length = k.tables.length := by
  obtain ⟨a, b, hab, rfl, _⟩ := pickLast_some hp
  -- the head demoted, `t` taken out of the list and put in front
  rw [(tables_perm _).length_eq, (tables_perm _).length_eq, ← length_demoted k, makeTable_eq, hp, hab]
  simp [newestFirst, Nat.add_assoc]

/-- **C20 (compaction keeps making progress until the garbage ratio is below its threshold).**  From
    every reachable store, the worker's loop (call `Compaction` until it answers done) stops within
    `2·(stored records) + (retired tables) + 3` calls for every iteration order and clock, and then
    every table behind the head is below 40 % garbage; each call before that lowers `KV.mu`
    (C11_compaction_progress). -/
theorem C20_compaction_reaches_threshold (ord : KV → List Nat) (now : Nat → Int)
    (hord : ∀ k : KV, k.WF → KV.ValidOrder k (ord k)) (k : KV) (w : k.WF) (hts : 0 < k.tableSize) :
    let n := 2 * k.stats.length + k.old.length + 3
    (KV.compactLoop ord now n k).2 = true ∧
    ∀ t ∈ (KV.compactLoop ord now n k).1.old, t.garbage * 5 < t.alloc * 2 := by
  intro n
  obtain ⟨a, _, _, e⟩ := C11.C11_compaction_terminates ord now hord k w hts
  exact ⟨a, fun t ht => ((needsCompaction_eq_false t).mp (e t ht)).2⟩

/-- **Tie to the source (regenerated on every run).**  The member-level worker (internal/dmap/compaction.go)
    calls `Compaction` until done on every DMap fragment of the primary AND of the backup partitions: the loop the
    theorem `C20_compaction_reaches_threshold` is about, for the copies on both sides; a fragment closed under the
    worker (Destroy, janitor, hand-over) answers done, so the loop ends there too (before 1e49019 it never did: F45);
    a table without live entries is selected whatever its ratio (6031b9a, F44). -/
theorem facts_tie : Facts.compaction_worker_runs_primary_and_backup_until_done = true ∧ Facts.compaction_skips_readwrite = true ∧
    Facts.closed_fragment_compaction_answers_done = true ∧ Facts.compaction_takes_tables_without_live_entries = true := by
  decide

example : ∀ t ∈ (C11.run (KV.fork 256 1000) C11.demoOps).1.newestFirst,
    t.inuse = sumSize t.slots ∧ t.inuse + t.garbage = t.off :=
  C20_accounting_run 256 1000 C11.demoOps C11.demoOps_ok

/-- the churn hypotheses are met by the demo workload (entries of at most 180 bytes), and after it a
    retired table that is not empty really is within 180 bytes of full -/
example : KV.Churn 180 (C11.run (KV.fork 256 1000) C11.demoOps).1 :=
  C20_nearfull_run 180 C11.demoOps C11.demoOps_ok (by
    intro op hop
    simp only [C11.demoOps, List.mem_cons, List.mem_nil_iff, or_false] at hop
    rcases hop with rfl | rfl | rfl | rfl | rfl | rfl | rfl <;>
      simp only [sizeLe, C11.recA, C11.recB, Rec.size, List.length_cons, List.length_nil, List.length_replicate] <;> decide)
    _ (fork_wf 256 1000) (KV.churn_fork 180 256 1000)
set_option maxRecDepth 100000 in
example : (C11.run (KV.fork 256 1000) C11.demoOps).1.old.map (fun t => (t.off, t.alloc, t.slots.length)) = [(213, 256, 1)] := by decide

end Olric.C20
