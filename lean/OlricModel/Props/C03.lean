/-
  C03 — Rebalancing after joins and leaves neither loses, duplicates nor resurrects keys.

  The hand-over of one key, as the code performs it (fragment.Move → DMAP.MOVEFRAGMENT → mergeFragments →
  Drop), in separate steps that other operations and crashes may interleave with:
      moveMerge : the receiver merges the sender's version onto its own (last write wins); definitionally
                  `(mergeEntries c dst kind dm [(k, x)]).1` of DMap/Model.lean, `x` the sender's version;
      moveDrop  : the sender drops its table — only after the receiver acknowledged.
  and the reads / deletes that run while a previous owner is still listed (DMap/Model.lean `get`, `del`).
-/
import OlricModel.Props.C06
import OlricModel.Generated.Facts
namespace Olric.C03
open Olric Olric.DMap Olric.C04

/-- the receiver's half of a move, for one key -/
def moveMerge (c : Cluster) (src dst : Nat) (kind : Kind) (dm : Bytes) (k : Key) : Cluster :=
  match c.copy src kind dm k with
  | some x => c.setCopy dst kind dm k (some (lwwC (c.copy dst kind dm k) x))
  | none => c

/-- the sender's half: the moved table is dropped -/
def moveDrop (c : Cluster) (src : Nat) (kind : Kind) (dm : Bytes) (k : Key) : Cluster :=
  c.setCopy src kind dm k none

/-- newest timestamp a member holds for the key (none = no copy) -/
def tsOf (c : Cluster) (m : Nat) (kind : Kind) (dm : Bytes) (k : Key) : Option Int := (c.copy m kind dm k).map (·.ts)

/-- **C03 (a move neither loses nor duplicates).**  For a sender that holds a version `x` and a different
    receiver holding anything (nothing, an older, a newer version): after the merge the receiver holds the
    newer of the two (the incoming one on a tie) and the sender still holds `x`; after the drop the sender
    holds nothing and the receiver what it held after the merge: exactly one of the two holds the key, and
    it is the newest version.  Nobody else is touched. -/
theorem C03_move (c : Cluster) (src dst : Nat) (hne : src ≠ dst) (kind : Kind) (dm : Bytes) (k : Key) (x : Copy)
    (hx : c.copy src kind dm k = some x) :
    let c1 := moveMerge c src dst kind dm k
    let c2 := moveDrop c1 src kind dm k
    c1.copy dst kind dm k = some (lwwC (c.copy dst kind dm k) x) ∧ c1.copy src kind dm k = some x ∧
    c2.copy dst kind dm k = some (lwwC (c.copy dst kind dm k) x) ∧ c2.copy src kind dm k = none ∧
    (∀ j kind' dm' k', ¬ ((j = src ∨ j = dst) ∧ kind' = kind ∧ dm' = dm ∧ k' = k) →
        c2.copy j kind' dm' k' = c.copy j kind' dm' k') := by
  simp only [moveMerge, moveDrop, hx, copy_setCopy]
  refine ⟨by simp, by simp [hne], by simp [Ne.symm hne], by simp, fun j kind' dm' k' h => ?_⟩
  rw [if_neg fun h1 => h ⟨.inl h1.1, h1.2⟩, if_neg fun h2 => h ⟨.inr h2.1, h2.2⟩]

/-- **C03 (a crash at any step of a move).**  Whichever of the two members is lost, and at whichever point
    — before the merge, after the merge but before the drop, after the drop — the member that is not lost
    holds a version at least as new as the sender's, except when the sender is lost before anything was
    merged (the loss of a sole holder: covered by the backups, C02). -/
theorem C03_move_crash_points (c : Cluster) (src dst : Nat) (hne : src ≠ dst) (kind : Kind) (dm : Bytes) (k : Key) (x : Copy)
    (hx : c.copy src kind dm k = some x) :
    -- receiver lost before it acknowledged: nothing was dropped
    (c.copy src kind dm k = some x) ∧
    -- sender lost after the merge: the receiver has it
    (∃ y, (moveMerge c src dst kind dm k).copy dst kind dm k = some y ∧ x.ts ≤ y.ts) ∧
    -- receiver lost after the merge, before the acknowledgement reached the sender: the sender still has it
    ((moveMerge c src dst kind dm k).copy src kind dm k = some x) ∧
    -- after the drop: the receiver has it
    (∃ y, (moveDrop (moveMerge c src dst kind dm k) src kind dm k).copy dst kind dm k = some y ∧ x.ts ≤ y.ts) := by
  obtain ⟨h1, h2, h3, _, _⟩ := C03_move c src dst hne kind dm k x hx
  exact ⟨hx, ⟨_, h1, (lwwC_ts _ x).1⟩, h2, ⟨_, h3, (lwwC_ts _ x).1⟩⟩

/-- **C03 (reads during a hand-over).**  While previous owners are listed, a Get on the owner gathers the
    owner's copy, every previous owner's and every backup owner's, and answers with the newest of them:
    the value is found wherever it currently lives (C06_get_returns_newest, for every route). -/
theorem C03_read_during_handover (cfg : Cfg) (r : Route) (c : Cluster) (dm : Bytes) (k : Key) (now : Int) (w : Copy)
    (h : (get cfg r allReach c dm k now).2 = .val w) :
    (∀ m ∈ r.prev, ∀ y, live (c.copy m .prim dm k) now = some y → y.ts ≤ w.ts) ∧
    (∀ y, live (c.copy r.owner .prim dm k) now = some y → y.ts ≤ w.ts) ∧
    (∀ b ∈ r.baks, ∀ y, live (c.copy b .bak dm k) now = some y → y.ts ≤ w.ts) := by
  have hnew := C06.C06_get_returns_newest cfg r allReach c dm k now w h
  exact ⟨fun m hm y hy => hnew _ (prev_mem_versions hm rfl hy) y rfl,
    fun y hy => hnew _ owner_mem_versions y hy,
    fun b hb y hy => hnew _ (bak_mem_versions hb rfl) y hy⟩

/-- **C03 (deletes during a hand-over).**  A Delete on the owner removes the key from the owner, from every
    listed previous owner and from every backup owner: wherever it lives. -/
theorem C03_delete_during_handover (cfg : Cfg) (hR : cfg.R > 1) (r : Route) (c : Cluster) (dm : Bytes) (k : Key) :
    (del cfg r c dm k).copy r.owner .prim dm k = none ∧
    (∀ m ∈ r.prev, (del cfg r c dm k).copy m .prim dm k = none) ∧
    (∀ b ∈ r.baks, (del cfg r c dm k).copy b .bak dm k = none) := by
  refine ⟨?_, ?_, ?_⟩
  · rw [copy_owner_del, if_pos rfl]
  · intro m hm; rw [copy_del, if_pos ⟨.inr (.inl ⟨hm, rfl⟩), rfl, rfl⟩]
  · exact fun b hb => copy_bak_del hR hb

/-- a deleted key cannot come back through a move: a move only carries what the sender holds -/
theorem C03_move_nothing_from_nothing (c : Cluster) (src dst : Nat) (kind : Kind) (dm : Bytes) (k : Key)
    (hx : c.copy src kind dm k = none) : moveMerge c src dst kind dm k = c := by
  simp [moveMerge, hx]

/-- read repair does not plant copies on previous owners (where a Delete routed later could miss them):
    a Get — read-repair on or off — leaves every member that is neither the owner nor a backup owner
    untouched -/
theorem C03_repair_skips_previous_owners (cfg : Cfg) (r : Route) (c : Cluster) (dm : Bytes) (k : Key) (now : Int)
    (m : Nat) (hm : m ≠ r.owner) (hb : m ∉ r.baks) (kind : Kind) :
    (get cfg r allReach c dm k now).1.copy m kind dm k = c.copy m kind dm k := by
  rcases get_fst_cases cfg r allReach c dm k now with h | ⟨w, h⟩ <;> rw [h]
  rw [copy_repair, if_neg]
  -- a version gathered from `m` can only be a previous owner's, and those are never stale
  rintro ⟨⟨v, hv, hs, rfl⟩, _⟩
  rcases (mem_versions hv).2 with ⟨h1, _⟩ | ⟨_, h2⟩ | ⟨h1, _⟩
  · exact hm h1
  · exact hs.1 ⟨h2, hm⟩
  · exact hb h1

/-- the shape of the hand-over the model follows, regenerated from the source on every run -/
theorem facts_tie : Facts.handover_merges_lww_then_drops = true := by decide

/-! Non-vacuity: member 0 holds version ts 5, member 1 an older one (ts 3); the move 0 → 1 leaves the newer
    version on member 1 only; a move of an older version onto a newer one keeps the newer one. -/
def cM : Cluster := (Cluster.empty.setCopy 0 .prim [100] [107] (some ⟨[9], 0, 5⟩)).setCopy 1 .prim [100] [107] (some ⟨[1], 0, 3⟩)
example : (moveDrop (moveMerge cM 0 1 .prim [100] [107]) 0 .prim [100] [107]).copy 1 .prim [100] [107] = some ⟨[9], 0, 5⟩ := by decide
example : (moveDrop (moveMerge cM 0 1 .prim [100] [107]) 0 .prim [100] [107]).copy 0 .prim [100] [107] = none := by decide
example : (moveDrop (moveMerge cM 1 0 .prim [100] [107]) 1 .prim [100] [107]).copy 0 .prim [100] [107] = some ⟨[9], 0, 5⟩ := by decide

end Olric.C03
