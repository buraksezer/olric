/-
  C09 — A key is visible until its expiry and never after it.
  Statements about DMap/Model.lean; `now` (unix ns) is an arbitrary input of every operation, and
  "background eviction has or has not run" is covered by quantifying over both stored states
  (the expired entry is still there / it is gone).
-/
import OlricModel.Proofs.HealthyCluster
namespace Olric.C09
open Olric Olric.DMap Olric.C04

/-- every copy of the key, on every member, is absent or expired at `now` -/
def Gone (c : Cluster) (dm : Bytes) (k : Key) (now : Int) : Prop :=
  ∀ m kind, live (c.copy m kind dm k) now = none

/-- **C09 (never after).**  Once the deadline has passed — whether the expired entry is still stored
    or background eviction already removed it, on any member — with every backup owner reachable and a read
    quorum the listed owners can meet:
    Get answers not-found, a Put with NX is accepted (the key counts as absent), a Put with XX and an
    Expire answer not-found and change nothing. -/
theorem C09_invisible_after (cfg : Cfg) (r : Route) (c : Cluster) (dm : Bytes) (k : Key) (now : Int)
    (hg : Gone c dm k now) (hq : cfg.RQ ≤ r.baks.length + 1) :
    (get cfg r allReach c dm k now).2 = .notFound ∧
    (∀ v t, (put cfg r allReach c dm k v { nx := true, ttl := t } now).2 ≠ .keyFound) ∧
    (∀ v t, put cfg r allReach c dm k v { xx := true, ttl := t } now = (c, .notFound)) ∧
    (∀ timeout, expire cfg r allReach c dm k timeout now = (c, .notFound)) := by
  have ho := hg r.owner .prim
  refine ⟨?_, fun v t => ?_, fun v t => ?_, fun timeout => ?_⟩
  · rw [get_snd]
    exact answer_of_nil (Nat.le_trans hq (versions_length_allReach r c dm k now))
      (copies_eq_nil.mpr fun v hv => by rw [(mem_versions hv).1, hg])
  · rw [put_eq, ho, if_neg (fun h => h.2 rfl), if_neg (fun h => by cases h.1), replicate_snd]
    split <;> simp
  · rw [put_eq, ho]; rfl
  · exact expire_of_gone ho

/-- **C09 (visible before).**  While the deadline has not passed and the copies agree (C04), a Get
    returns the stored value, for every `now` before the deadline. -/
theorem C09_visible_before (cfg : Cfg) (r : Route) (c : Cluster) (dm : Bytes) (k : Key) (now : Int) (x : Copy)
    (hown : c.copy r.owner .prim dm k = some x) (hlive : expired x.ttl now = false)
    (hm : Mirror c r dm k) (hprev : r.prev = []) (hq : cfg.RQ ≤ r.baks.length + 1) :
    ∃ w, (get { cfg with readRepair := false } r allReach c dm k now).2 = .val w ∧ w = x := by
  rw [get_mirrored { cfg with readRepair := false } now hm hprev hq, C08.abs, live_eq_some.mpr ⟨hown, hlive⟩]
  exact ⟨x, rfl, rfl⟩

/-- **C09 (ttl rules).**  A plain Put clears the expiry (or applies the DMap default), every option
    form sets exactly its deadline in unix ms. -/
theorem C09_ttl_rules (now : Int) (d t dflt : Int) :
    prepareTTL .none 0 now = 0 ∧
    (dflt ≠ 0 → prepareTTL .none dflt now = Int.tdiv (dflt + now) 1000000) ∧
    prepareTTL (.ex d) dflt now = Int.tdiv (d + now) 1000000 ∧
    prepareTTL (.px d) dflt now = Int.tdiv (d + now) 1000000 ∧
    prepareTTL (.exat t) dflt now = Int.tdiv t 1000000 ∧
    prepareTTL (.pxat t) dflt now = Int.tdiv t 1000000 :=
  ⟨prepareTTL_none_zero now, fun h => prepareTTL_none_of_ne h now, rfl, rfl, rfl, rfl⟩

/-- Expire replaces the deadline without touching the value -/
theorem C09_expire_keeps_value (cfg : Cfg) (r : Route) (c : Cluster) (dm : Bytes) (k : Key) (timeout now : Int) (x : Copy)
    (hown : c.copy r.owner .prim dm k = some x) (hlive : expired x.ttl now = false) (ht : timeout ≠ 0) :
    (expire cfg r allReach c dm k timeout now).1.copy r.owner .prim dm k =
      some ⟨x.val, Int.tdiv (timeout + now) 1000000, now⟩ := by
  rw [expire_of_live (live_eq_some.mpr ⟨hown, hlive⟩), copy_owner_replicate, if_pos rfl, if_pos (bne_iff_ne.mpr ht),
    prepareTTL_none_of_ne ht]

/-- the deadline test itself: at the very millisecond of the deadline the key is already gone -/
theorem C09_boundary (ttl now : Int) (h0 : ttl ≠ 0) :
    expired ttl now = true ↔ ttl ≤ Int.tdiv now 1000000 :=
  expired_eq_true.trans (and_iff_right h0)

/-! Non-vacuity: nothing is stored in the empty cluster; a deadline is passed at its own millisecond, not one ns before -/
example : Gone Cluster.empty [100] [107] 5 := fun m kind => by cases kind <;> rfl
example : expired 1700000000001 1700000000001000000 = true := by decide
example : expired 1700000000001 1700000000000999999 = false := by decide

end Olric.C09
