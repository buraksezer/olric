/-
  C16 — No request can crash or wedge a member (argument-vector handling).

  The parsers are not hand-modelled: Generated/Parsers.lean is produced from internal/protocol/*.go
  by /verif/extract/parsers on every run, Generated/ParsersSafe.lean holds one `decide`d obligation
  per parser, and Proofs/IRSound.lean proves the checker sound once and for all.
-/
import OlricModel.Proofs.IRSound
import OlricModel.Generated.ParsersSafe
import OlricModel.Store.Pack
import OlricModel.Generated.Facts
namespace Olric.C16
open Olric.IR Olric.Parsers

/-- the outcome is a reply: a parsed command or an error — not a Go panic, not an endless loop -/
def Replies : Res → Prop
  | .retOk => True
  | .retErr => True
  | .next _ => True
  | _ => False

/-- **C16 (parsers).**  For every `Parse*Command` function found in internal/protocol today, every
    argument vector of every length (Args[0] being the command name, as redcon guarantees) and every
    behaviour of strconv on its tokens: the parser returns a command or an error.  No index or slice
    is out of range — options in any order, an option without its value, too few or too many
    arguments — and every option loop terminates within len(args)+1 iterations. -/
theorem C16_parsers_total (name : String) (p : Block) (hmem : (name, p) ∈ Parsers.all)
    (ok : NumOk) (args : List Tok) (hargs : 1 ≤ args.length) : Replies (run ok p args) :=
  safe_sound p (List.all_eq_true.1 Parsers.all_safe (name, p) hmem) ok args hargs

/-- nothing in the source was outside the translated subset -/
theorem C16_translation_complete : Parsers.untranslated = [] := Parsers.translator_complete

/-! The checker is not vacuous: it rejects the two shapes that were defects in this repository - an index one past
    the checked length, an option loop without progress - and the interpreter panics / spins on them. -/

theorem C16_checker_rejects_bad_index :
    safe (.cons (.ifLen 0 .lt 2 (.cons (.ret false) .nil) .nil) (.cons (.index 0 2) (.cons (.ret true) .nil))) = false := by
  decide

theorem C16_checker_rejects_spinning_loop :
    safe (.cons (.slice 1 0 1) (.cons (.loop 1 (.cons (.switchTok 1 0 (.cons [82, 67] (.cons (.slice 1 1 1) .nil) .nil) .nil) .nil)) (.cons (.ret true) .nil))) = false := by
  decide

example : (match run (fun _ _ => true) (.cons (.ifLen 0 .lt 2 (.cons (.ret false) .nil) .nil) (.cons (.index 0 2) (.cons (.ret true) .nil))) [[1], [2]] with | .panic => true | _ => false) = true := by decide
example : (match run (fun _ _ => true)
    (.cons (.slice 1 0 1) (.cons (.loop 1 (.cons (.switchTok 1 0 (.cons [82, 67] (.cons (.slice 1 1 1) .nil) .nil) .nil) .nil)) (.cons (.ret true) .nil)))
    [[1], [120]] with | .spin => true | _ => false) = true := by decide

/-! ## a table received over the network (fix ef8ceb4, finding F49) -/

open Olric.Pack in
/-- **C16 (received table).**  For every pack that `Pack.validate` accepts - whatever bytes, sizes and index it carries -
    the decoded table is no larger than 4 GiB, its memory is exactly as long as its write offset, and every position that
    the readers of the table access for an indexed entry (key-length byte, key, the three time stamps, the value length, the
    value) lies inside the received memory: no reader of a decoded table indexes or slices out of range. -/
theorem C16_validated_pack_reads_in_bounds (p : Pack) (h : validate p = true) :
    p.allocated ≤ maxPackAllocation ∧ p.offset ≤ p.allocated ∧ p.memory.length = p.offset ∧
    ∀ e ∈ p.hkeys, e.2 < p.memory.length ∧ vlenAt p.memory e.2 + 4 ≤ p.memory.length ∧
      ∀ i ∈ readPositions p.memory e.2, i < p.memory.length := by
  simp only [validate, entryOk, Bool.and_eq_true, decide_eq_true_eq, List.all_eq_true] at h
  obtain ⟨⟨⟨ha, ho⟩, hm⟩, he⟩ := h
  refine ⟨ha, ho, hm, fun e hmem => ?_⟩
  obtain ⟨⟨h1, h2⟩, h3⟩ := he e hmem
  rw [hm]
  refine ⟨h1, h2, fun i hi => ?_⟩
  simp only [readPositions, List.mem_range'_1] at hi
  -- the positions read run from the entry's offset to its end, and the end was checked against the write offset
  have : e.2 ≤ entryEnd p.memory e.2 := by simp only [entryEnd, vlenAt, Nat.add_assoc]; exact Nat.le_add_right _ _
  exact Nat.lt_of_lt_of_le (Nat.add_sub_cancel' this ▸ hi.2) h3

/-- the check is where the model says it is, regenerated from internal/kvstore/table/pack.go and
    internal/cluster/routingtable/operations.go on every run -/
theorem facts_tie_payloads : Facts.table_pack_is_checked_before_a_table_is_built = true ∧
    Facts.pushed_table_is_checked_before_it_is_applied = true := by decide

/-! Non-vacuity: one entry (key "ab", value [7,7,7]) at offset 0; and the three falsified packs of F49 are refused -/
def goodMem : List Nat := [2, 97, 98] ++ List.replicate 24 0 ++ [0, 0, 0, 3] ++ [7, 7, 7]
example : Pack.validate ⟨34, 512, goodMem, [(12345, 0)]⟩ = true := by decide
example : Pack.validate ⟨612, 512, goodMem, [(12345, 0)]⟩ = false := by decide          -- write offset beyond the allocation
example : Pack.validate ⟨34, 512, goodMem, [(12345, 562)]⟩ = false := by decide         -- index entry outside the table
example : Pack.validate ⟨34, 512, [2, 97, 98] ++ List.replicate 24 0 ++ [127, 255, 0, 3] ++ [7, 7, 7], [(12345, 0)]⟩ = false := by decide  -- value length past the end

end Olric.C16
