/-
  C01 — Per-key linearizability in a stable cluster, from any entry point.

  The micro-step model of one key (owner + backup owners, stable membership):
    * a write (Put plain / NX / XX that passes its condition, or Delete) is a critical section under the
      owner's fragment lock: BEGIN (the condition is evaluated on the owner's copy), one step per backup
      owner (the copy on that backup is replaced / removed), END (the owner's own copy is replaced /
      removed).  Backups before the owner: Facts.sync_put_backups_before_local, deleteOnCluster;
    * a Get is NOT one step: it reads the owner's copy under the read lock (so never inside a write's
      critical section), then asks every backup owner, one at a time, with no lock held, then answers
      with one of the versions it gathered (the code picks the newest timestamp; the theorem holds for
      ANY choice among the gathered versions).

  Why C01_read_in_interval and C01_write_decides_on_register are linearizability: the abstract register is
  defined by ONE instant per write (its BEGIN step); a conditional write decides by the register's value at
  that instant, and the version a Get answers with is the register's value at some instant between the Get's
  first step and its answer.  For a single register that is enough: writes are totally ordered by their
  instants, each read can be placed at the instant whose value it returns, and instants inside the
  operations' intervals respect real-time order by construction.

  The same execution with read-repair switched on is NOT linearizable: C01_read_repair_resurrects is the
  witness (finding F14, replayed on the implementation by the stream and listed in known_findings.json).
-/
import OlricModel.Generated.Facts
namespace Olric.C01
open Olric

/-- a version: `none` = no entry; `some n` = the entry written by the n-th write (writes are numbered) -/
abbrev Ver := Option Nat

structure Writer where
  new : Ver                 -- what the write installs (none = delete)
  todo : List Nat           -- backup owners not yet updated
  deriving Repr

structure Reader where
  h0 : Nat                  -- length of the register history when the owner's copy was read
  seen : List Ver           -- versions gathered so far (owner's copy first)
  deriving Repr

structure St where
  nb : Nat                          -- number of backup owners
  hist : List Ver                   -- every value the register has had, newest first; never empty
  loc : Ver                         -- the owner's copy
  baks : Nat → Ver                  -- the backup owners' copies
  writer : Option Writer
  readers : Nat → Option Reader

def St.reg (s : St) : Ver := s.hist.headD none

inductive Cond | always | nx | xx
  deriving DecidableEq, Repr

def Cond.passes : Cond → Ver → Bool
  | .always, _ => true
  | .nx, v => v.isNone
  | .xx, v => v.isSome

inductive Step
  | beginWrite (new : Ver) (c : Cond)     -- takes the fragment lock; THE instant of the write
  | writeBackup (b : Nat)
  | endWrite                               -- the owner's copy; releases the lock
  | getLocal (j : Nat)                     -- under the read lock: not inside a critical section
  | getBackup (j b : Nat)
  | getReturn (j : Nat) (pick : Nat)       -- answers with the pick-th gathered version; the reader is done (`pick` does
                                           -- not change the state: `C01_read_in_interval` is about every pick)
  deriving Repr

/-- one micro-step; a step that is not enabled leaves the state unchanged -/
def step (s : St) : Step → St
  | .beginWrite new c =>
    match s.writer with
    | some _ => s
    | none =>
      if c.passes s.loc then
        { s with hist := new :: s.hist, writer := some ⟨new, List.range s.nb⟩ }
      else s     -- the condition failed: key-found / not-found is answered, nothing changes
  | .writeBackup b =>
    match s.writer with
    | some w =>
      if b ∈ w.todo then
        { s with baks := fun x => if x = b then w.new else s.baks x, writer := some { w with todo := w.todo.erase b } }
      else s
    | none => s
  | .endWrite =>
    match s.writer with
    | some w => if w.todo = [] then { s with loc := w.new, writer := none } else s
    | none => s
  | .getLocal j =>
    match s.writer with
    | some _ => s
    | none => { s with readers := fun x => if x = j then some ⟨s.hist.length, [s.loc]⟩ else s.readers x }
  | .getBackup j b =>
    match s.readers j with
    | some r => if b < s.nb then { s with readers := fun x => if x = j then some { r with seen := r.seen ++ [s.baks b] } else s.readers x } else s
    | none => s
  | .getReturn j _ => { s with readers := fun x => if x = j then none else s.readers x }

def run (s : St) (steps : List Step) : St := steps.foldl step s

/-- the versions the register has had since (and including) the moment its history had length `h0` -/
def window (s : St) (h0 : Nat) : List Ver := s.hist.take (s.hist.length - h0 + 1)

/-- `idle`: outside a critical section every copy is the register's value.  `busy`: inside one the register already is
    the new value, the owner still holds the previous one, and a backup holds the previous one exactly while it is in
    `todo`.  `rd`: whatever a reader has gathered lies in its window; and a reader that is under way during a critical
    section started before the write's instant (`getLocal` is not enabled inside one), so its window holds the
    previous value too. -/
structure Inv (s : St) : Prop where
  nonempty : s.hist ≠ []
  idle : s.writer = none → s.loc = s.reg ∧ ∀ b, b < s.nb → s.baks b = s.reg
  busy : ∀ w, s.writer = some w → s.reg = w.new ∧ (∀ b ∈ w.todo, b < s.nb) ∧ w.todo.Nodup ∧
      ∃ prev rest, s.hist = w.new :: prev :: rest ∧ s.loc = prev ∧
        ∀ b, b < s.nb → s.baks b = (if b ∈ w.todo then prev else w.new)
  rd : ∀ j r, s.readers j = some r → r.h0 ≥ 1 ∧ r.h0 ≤ s.hist.length ∧ (∀ v ∈ r.seen, v ∈ window s r.h0) ∧
      (s.writer ≠ none → r.h0 < s.hist.length)

theorem hist_eq {s : St} (h : Inv s) : s.hist = s.reg :: s.hist.tail := by
  unfold St.reg
  cases hh : s.hist with
  | nil => exact absurd hh h.nonempty
  | cons a r => rfl

theorem mem_take_cons {x v : Ver} {l : List Ver} {n m : Nat} (h : x ∈ l.take n) (hnm : n ≤ m) : x ∈ (v :: l).take (m + 1) :=
  List.mem_cons_of_mem _ (List.take_subset_take_left l hnm h)

theorem reg_mem_window {s : St} (h : Inv s) {h0 : Nat} : s.reg ∈ window s h0 := by
  rw [window, hist_eq h]
  exact List.mem_cons_self

theorem second_mem_window {s : St} {a p : Ver} {rest : List Ver} (hh : s.hist = a :: p :: rest) {h0 : Nat}
    (hlt : h0 < s.hist.length) : p ∈ window s h0 := by
  unfold window
  rw [hh] at hlt ⊢
  exact mem_take_cons (n := 1) List.mem_cons_self (Nat.le_sub_of_add_le' hlt)

/-- what `Inv.rd` says of one reader -/
def ROk (s : St) (r : Reader) : Prop :=
  r.h0 ≥ 1 ∧ r.h0 ≤ s.hist.length ∧ (∀ v ∈ r.seen, v ∈ window s r.h0) ∧ (s.writer ≠ none → r.h0 < s.hist.length)

theorem ROk.frame {s : St} {r : Reader} {loc : Ver} {baks : Nat → Ver} {w : Option Writer} (hw : w ≠ none → s.writer ≠ none)
    (h : ROk s r) : ROk { s with loc := loc, baks := baks, writer := w } r :=
  ⟨h.1, h.2.1, h.2.2.1, fun hn => h.2.2.2 (hw hn)⟩

theorem ROk.push {s : St} {r : Reader} {v : Ver} {w : Option Writer} (h : ROk s r) :
    ROk { s with hist := v :: s.hist, writer := w } r := by
  obtain ⟨r1, r2, r3, _⟩ := h
  exact ⟨r1, Nat.le_succ_of_le r2, fun x hx => mem_take_cons (r3 x hx) (Nat.le_of_eq (Nat.succ_sub r2).symm), fun _ => Nat.lt_succ_of_le r2⟩

/-- what a reader under way finds on a backup is the register's value, or (inside a critical section, which the reader
    started before) the one before: both lie in its window -/
theorem Inv.bak_mem_window {s : St} (h : Inv s) {r : Reader} (hr : ROk s r) {b : Nat} (hb : b < s.nb) :
    s.baks b ∈ window s r.h0 := by
  cases hw : s.writer with
  | none =>
    rw [(h.idle hw).2 b hb]
    exact reg_mem_window h
  | some w =>
    obtain ⟨b1, _, _, prev, rest, b4, _, b6⟩ := h.busy w hw
    rw [b6 b hb]
    split
    · exact second_mem_window b4 (hr.2.2.2 (hw ▸ Option.some_ne_none w))
    · exact b1 ▸ reg_mem_window h

theorem Inv.setReader {s : St} (h : Inv s) (j : Nat) (o : Option Reader) (ho : o.elim True (ROk s)) :
    Inv { s with readers := fun x => if x = j then o else s.readers x } := by
  refine ⟨h.nonempty, h.idle, h.busy, fun i r hr => ?_⟩
  by_cases hij : i = j
  · obtain rfl : o = some r := (if_pos hij).symm.trans hr
    exact ho
  · exact h.rd i r ((if_neg hij).symm.trans hr)

theorem inv_step (s : St) (st : Step) (h : Inv s) : Inv (step s st) := by
  cases st with
  | beginWrite new c =>
    dsimp only [step]
    cases hw : s.writer with
    | some w => exact h
    | none =>
      refine iteInduction (fun _ => ?_) fun _ => h
      obtain ⟨hl, hb⟩ := h.idle hw
      refine ⟨List.cons_ne_nil _ _, nofun, ?_, fun j r hr => ROk.push (h.rd j r hr)⟩
      rintro _ ⟨⟩
      refine ⟨rfl, fun b hb' => List.mem_range.mp hb', List.nodup_range, s.reg, s.hist.tail, congrArg _ (hist_eq h), hl, ?_⟩
      intro b hbn
      rw [if_pos (List.mem_range.mpr hbn)]
      exact hb b hbn
  | writeBackup b =>
    dsimp only [step]
    cases hw : s.writer with
    | none => exact h
    | some w =>
      refine iteInduction (fun _ => ?_) fun _ => h
      obtain ⟨b1, b2, b3, prev, rest, b4, b5, b6⟩ := h.busy w hw
      refine ⟨h.nonempty, nofun, ?_,
        fun j r hr => ROk.frame (fun _ => hw ▸ Option.some_ne_none w) (h.rd j r hr)⟩
      rintro _ ⟨⟩
      refine ⟨b1, fun x hx => b2 x (List.mem_of_mem_erase hx), List.Nodup.erase _ b3, prev, rest, b4, b5, ?_⟩
      intro x hxn
      -- `todo` has no duplicates: `b` has left it, the others are in it as before
      by_cases hxb : x = b
      · simp only [hxb, if_true, List.Nodup.not_mem_erase b3, if_false]
      · simp only [if_neg hxb, b6 x hxn, List.mem_erase_of_ne hxb]
  | endWrite =>
    dsimp only [step]
    cases hw : s.writer with
    | none => exact h
    | some w =>
      refine iteInduction (fun ht => ?_) fun _ => h
      obtain ⟨b1, _, _, _, _, _, _, b6⟩ := h.busy w hw
      refine ⟨h.nonempty, fun _ => ⟨b1.symm, fun b hbn => ?_⟩, nofun,
        fun j r hr => ROk.frame (fun hn => absurd rfl hn) (h.rd j r hr)⟩
      -- nothing is left to do: every backup holds the new version
      have := b6 b hbn
      rw [ht, if_neg List.not_mem_nil] at this
      exact this.trans b1.symm
  | getLocal j =>
    dsimp only [step]
    split
    · exact h
    · next hw =>
      have hl : s.loc ∈ window s s.hist.length := (h.idle hw).1 ▸ reg_mem_window h
      exact h.setReader j (some ⟨s.hist.length, [s.loc]⟩)
        ⟨List.length_pos_iff.mpr h.nonempty, Nat.le_refl _, List.forall_mem_singleton.mpr hl, fun hn => absurd hw hn⟩
  | getBackup j b =>
    dsimp only [step]
    cases hr : s.readers j with
    | none => exact h
    | some r =>
      refine iteInduction (fun hbn => ?_) fun _ => h
      obtain ⟨r1, r2, r3, r4⟩ := h.rd j r hr
      exact h.setReader j (some _)
        ⟨r1, r2, List.forall_mem_append.mpr ⟨r3, List.forall_mem_singleton.mpr (h.bak_mem_window (h.rd j r hr) hbn)⟩, r4⟩
  | getReturn j pick => exact h.setReader j none trivial

def init (nb : Nat) : St :=
  { nb := nb, hist := [none], loc := none, baks := fun _ => none, writer := none, readers := fun _ => none }

theorem inv_init (nb : Nat) : Inv (init nb) where
  nonempty := List.cons_ne_nil _ _
  idle _ := ⟨rfl, fun _ _ => rfl⟩
  busy _ hw := by contradiction
  rd _ _ hr := by contradiction

theorem inv_run {s : St} (steps : List Step) (h : Inv s) : Inv (run s steps) := by
  induction steps generalizing s with
  | nil => exact h
  | cons a rest ih => exact ih (inv_step s a h)

theorem step_nb (s : St) (st : Step) : (step s st).nb = s.nb := by
  cases st <;> dsimp only [step] <;> (try split) <;> (try split) <;> rfl

theorem run_nb (s : St) (steps : List Step) : (run s steps).nb = s.nb := by
  induction steps generalizing s with
  | nil => rfl
  | cons a rest ih => exact (ih _).trans (step_nb s a)

/-- **C01 (reads).**  After ANY interleaving of writers' and readers' micro-steps, whichever gathered
    version a Get answers with is a value the register held at some instant since the Get read the
    owner's copy (positions 0 … length − h0 of the newest-first history are exactly those instants). -/
theorem C01_read_in_interval (nb : Nat) (steps : List Step) (j : Nat) (r : Reader) (pick : Nat) (v : Ver)
    (hr : (run (init nb) steps).readers j = some r) (hp : r.seen[pick]? = some v) :
    v ∈ window (run (init nb) steps) r.h0 ∧ r.h0 ≥ 1 ∧ r.h0 ≤ (run (init nb) steps).hist.length := by
  obtain ⟨r1, r2, r3, _⟩ := (inv_run steps (inv_init nb)).rd j r hr
  exact ⟨r3 v (List.mem_of_getElem? hp), r1, r2⟩

/-- **C01 (writes).**  Writes are mutually exclusive critical sections; a conditional write decides by the
    owner's copy, which outside critical sections IS the register: NX succeeds iff the register is empty at
    the write's instant, XX iff it is not. -/
theorem C01_write_decides_on_register (nb : Nat) (steps : List Step) (new : Ver) (c : Cond)
    (hidle : (run (init nb) steps).writer = none) :
    let s := run (init nb) steps
    (c.passes s.reg = true → (step s (.beginWrite new c)).reg = new) ∧
    (c.passes s.reg = false → step s (.beginWrite new c) = s) := by
  intro s
  have hw : s.writer = none := hidle
  have hl : s.loc = s.reg := ((inv_run steps (inv_init nb)).idle hidle).1
  simp only [step, hw, ← hl]
  exact ⟨fun hp => by rw [if_pos hp]; rfl, fun hp => if_neg (ne_true_of_eq_false hp)⟩

/-- once a write has ended every copy is the register's value: a later Get — all of whose steps come
    after — gathers only that value -/
theorem C01_quiescent (nb : Nat) (steps : List Step) (hidle : (run (init nb) steps).writer = none) :
    let s := run (init nb) steps
    s.loc = s.reg ∧ ∀ b, b < nb → s.baks b = s.reg := by
  obtain ⟨hl, hb⟩ := (inv_run steps (inv_init nb)).idle hidle
  exact ⟨hl, fun b hbn => hb b (by rw [run_nb]; exact hbn)⟩

/-- the repair step of a Get: a gathered holder whose version differs from the winner (or that had none)
    receives the winner — with no lock spanning the gathering and the repair -/
def repairBackup (s : St) (b : Nat) (winner : Ver) : St :=
  { s with baks := fun x => if x = b then winner else s.baks x }

/-- Put #1 completes; a Get reads the owner's copy; a Delete runs to completion (acknowledged); the Get
    then asks the backup (nothing there), answers with version 1 and repairs the backup with it.  A Get
    that starts afterwards finds version 1 on the backup although the register has been empty since the
    Delete's instant — its answer is outside its interval: not linearizable. -/
theorem C01_read_repair_resurrects :
    let s1 := run (init 1) [.beginWrite (some 1) .always, .writeBackup 0, .endWrite,      -- Put #1
                            .getLocal 7,                                                   -- Get A reads the owner
                            .beginWrite none .always, .writeBackup 0, .endWrite,           -- Delete, complete
                            .getBackup 7 0]                                                -- Get A asks the backup
    let s2 := repairBackup s1 0 (some 1)                                                   -- Get A repairs the backup
    let s3 := run s2 [.getReturn 7 0, .getLocal 8, .getBackup 8 0]                         -- Get B, afterwards
    s3.reg = none ∧ (s3.readers 8).map (·.seen) = some [none, some 1] ∧
    (some 1 : Ver) ∉ window s3 ((s3.readers 8).map (·.h0) |>.getD 0) := by
  decide

/-- the order of the sub-steps the model relies on is read from the source on every run -/
theorem facts_tie : Facts.sync_put_backups_before_local = true ∧ Facts.write_sections_hold_fragment_lock = true ∧
    Facts.get_reads_owner_under_read_lock_then_replicas = true := by decide

/-! Non-vacuity: two backups; Put #1 in flight (one backup written) while a Get gathers: it sees the old
    and the new version and may answer with either — both are in its window. -/
def sDemo : St := run (init 2) [.beginWrite (some 1) .always, .writeBackup 0, .writeBackup 1, .endWrite,
                                 .getLocal 3, .beginWrite (some 2) .always, .writeBackup 1, .getBackup 3 0, .getBackup 3 1]
example : (sDemo.readers 3).map (·.seen) = some [some 1, some 1, some 2] := by decide
example : window sDemo ((sDemo.readers 3).map (·.h0) |>.getD 0) = [some 2, some 1] := by decide

end Olric.C01
