/- Termination of repeated kvstore.Compaction: a measure that every not-done call strictly decreases.

   A table is *dirty* when its garbage counter is positive (with `tableSize > 0` a clean table is never
   garbage-heavy).  Weight of a dirty table of `old` = its slot count + 1; the head, when dirty, carries a one-off
   allowance (all slots of the store + 2) that pays for the single time a dirty head is demoted.
   Every record that a compaction call moves leaves a dirty table of `old` for the head; when the head
   fills up, the tables that replace it are clean (fresh, or recycled and reset).  -/
import OlricModel.Proofs.KVCompact
import OlricModel.Proofs.KVXfer
import OlricModel.Proofs.SumLemmas
namespace Olric
open Table

namespace KV

def wt (t : Table) : Nat := if t.garbage > 0 then t.slots.length + 1 else 0
def phi (ts : List Table) : Nat := (ts.map wt).sum
def cnt (ts : List Table) : Nat := (ts.map (fun t => t.slots.length)).sum

def mu (k : KV) : Nat :=
  phi k.old + match k.head with
    | some hd => if hd.garbage > 0 then cnt k.old + hd.slots.length + 2 else 0
    | none => 0

theorem phi_cons (t : Table) (ts : List Table) : phi (t :: ts) = wt t + phi ts := by simp [phi]
theorem cnt_cons (t : Table) (ts : List Table) : cnt (t :: ts) = t.slots.length + cnt ts := by simp [cnt]

theorem wt_dirty {t : Table} (hg : t.garbage > 0) : wt t = t.slots.length + 1 := if_pos hg

theorem wt_le (t : Table) : wt t ≤ t.slots.length + 1 := by
  unfold wt; split
  · exact Nat.le_refl _
  · exact Nat.zero_le _

theorem phi_le (ts : List Table) : phi ts ≤ cnt ts + ts.length := by
  induction ts with
  | nil => simp [phi, cnt]
  | cons t ts ih =>
    rw [phi_cons, cnt_cons, List.length_cons, Nat.add_comm ts.length, Nat.add_add_add_comm]
    exact Nat.add_le_add (wt_le t) ih

theorem phi_demoted_le (k : KV) : phi k.demoted ≤ mu k := by
  unfold demoted mu
  cases k.head with
  | none => simp
  | some hd =>
    simp only [phi_cons]
    -- `wt` does not look at the state
    show wt hd + _ ≤ _
    unfold wt; split <;> omega

/-- from `k` to `k'`, `mu` does not rise and every dirty table of `old` is still in `old` -/
def Keeps (k k' : KV) : Prop := mu k' ≤ mu k ∧ ∀ t ∈ k.old, t.garbage > 0 → t ∈ k'.old

theorem dirty_not_recycled {k : KV} (w : k.WF) {t : Table} (ht : t ∈ k.old) (hg : t.garbage > 0) :
    isRecycled t = false :=
  Bool.eq_false_iff.mpr fun hr => Nat.ne_of_gt hg (w.blank ht hr).garbage

/-- the head `makeTable` leaves is blank, and what it takes out of `old` is a recycled table: blank too -/
theorem makeTable_mu {k : KV} (w : k.WF) : Keeps k k.makeTable := by
  obtain ⟨hd, mt⟩ := makeTable_cases k w
  refine ⟨?_, fun t ht hg => mt.keep t (mem_demoted_of_old ht) (dirty_not_recycled w ht hg)⟩
  have h : mu k.makeTable = phi k.makeTable.old := by simp [mu, mt.head, mt.blank.garbage]
  rw [h]
  exact Nat.le_trans (sum_map_sublist wt mt.sub) (phi_demoted_le k)

theorem commit_mu {k : KV} (hu : k.Unique) {hd v : Table} {h : Nat} {sv : Slot} (r : Rec) (hh : k.head = some hd)
    (hv : v ∈ k.old) (hvg : v.garbage > 0) (hvf : v.find h = some sv) :
    mu (k.commit (hd.write h r) h) + 1 ≤ mu k := by
  rw [Unique, newestFirst_of_head hh, List.pairwise_cons] at hu
  -- of two tables that share no key, the one beside `v` does not hold `h`
  have hne : v.find h ≠ none := by rw [hvf]; exact Option.some_ne_none sv
  have hdnone : hd.find h = none := (hu.1 v hv h).resolve_right hne
  have hothers : ∀ x ∈ k.old, x = v ∨ x.find h = none := fun x hx =>
    (eq_or_rel_of_pairwise disj_symm hu.2 hx hv).imp_right fun d => (d h).resolve_right hne
  obtain ⟨hvG, hvL⟩ := deleteD_found hvf
  -- so `v` is the only table of `old` the delete touches: it stays dirty and loses one slot
  have hdrop : ∀ f : Table → Nat, f (v.deleteD h) + 1 ≤ f v →
      ((k.old.map (fun t => t.deleteD h)).map f).sum + 1 ≤ (k.old.map f).sum := fun f hf =>
    sum_map_map_lt f (fun x hx => by
      rcases hothers x hx with rfl | e
      · exact Nat.le_of_succ_le hf
      · rw [deleteD_of_find_none e]; exact Nat.le_refl _) ⟨v, hv, hf⟩
  have hphi : phi (k.old.map (fun t => t.deleteD h)) + 1 ≤ phi k.old :=
    hdrop wt (by rw [wt_dirty hvg, wt_dirty (hvG ▸ Nat.lt_add_right _ hvg)]; exact Nat.succ_le_succ hvL)
  have hcnt : cnt (k.old.map (fun t => t.deleteD h)) + 1 ≤ cnt k.old := hdrop _ hvL
  -- the head does not hold `h` either, so the write appends to it: no garbage, and one slot, which inside a dirty
  -- head's allowance is the one `v` lost
  have hw : hd.write h r = hd.append h r := by rw [write, deleteD_of_find_none hdnone]
  simp only [mu, commit, hh, hw, Table.append, List.length_append, List.length_singleton]
  split
  · omega
  · exact hphi

theorem makeTable_unfold_wf (k : KV) (w : k.WF) : k.makeTable.WF := makeTable_wf k w

theorem putRaw_mu {k : KV} (w : k.WF) {v : Table} {h : Nat} {sv : Slot} {r : Rec} (hfit : r.size < k.tableSize)
    (hv : v ∈ k.old) (hvg : v.garbage > 0) (hvf : v.find h = some sv) :
    mu (k.putRaw h r).1 + 1 ≤ mu k ∧ v.deleteD h ∈ (k.putRaw h r).1.old := by
  obtain ⟨k0, hd, ke, w0, hh, _, e⟩ :=
    putRaw_eq_commit (R := Keeps k) k w h r hfit ⟨Nat.le_refl _, fun _ ht _ => ht⟩ fun _ => makeTable_mu w
  rw [e]
  have hv0 := ke.2 v hv hvg
  exact ⟨Nat.le_trans (commit_mu w0.unique r hh hv0 hvg hvf) ke.1, List.mem_map_of_mem hv0⟩

/-- `batch` is what one evictTable call moves out of the dirty table `v` -/
theorem foldPutRaw_mu (batch : List (Nat × Rec)) (k : KV) (w : k.WF) {v : Table} (hv : v ∈ k.old) (hvg : v.garbage > 0)
    (hnd : (batch.map (·.1)).Nodup)
    (hfit : ∀ p ∈ batch, p.2.size < k.tableSize ∧ p.2.key.length < 256)
    (hin : ∀ p ∈ batch, ∃ s, v.find p.1 = some s) :
    mu (batch.foldl (fun k p => (k.putRaw p.1 p.2).1) k) + batch.length ≤ mu k := by
  induction batch generalizing k v with
  | nil => simp
  | cons p ps ih =>
    simp only [List.foldl_cons, List.length_cons]
    simp only [List.map_cons, List.nodup_cons] at hnd
    have hp := hfit p List.mem_cons_self
    obtain ⟨wk, sk, _⟩ := putRaw_spec k w p.1 p.2 hp
    obtain ⟨s, hs⟩ := hin p List.mem_cons_self
    obtain ⟨m, hv'⟩ := putRaw_mu w hp.1 hv hvg hs
    -- what is left of `v` is dirty and still holds the other keys
    have := ih (k.putRaw p.1 p.2).1 wk hv' (Nat.lt_of_lt_of_le hvg (deleteD_garbage_ge v p.1)) hnd.2
      (fun q hq => by rw [sk]; exact hfit q (List.mem_cons_of_mem _ hq))
      (fun q hq => by
        have hne : q.1 ≠ p.1 := fun e => hnd.1 (e ▸ List.mem_map_of_mem hq)
        rw [find_deleteD, if_neg hne]
        exact hin q (List.mem_cons_of_mem _ hq))
    exact Nat.le_trans (Nat.add_le_add_right this 1) m

theorem resetDrained_mu (k : KV) (cf : Nat) (now : Int) :
    mu (k.resetDrained cf now) ≤ mu k ∧
    ∀ t ∈ k.old, t.cf = cf → t.garbage > 0 → isRecycled t = false → t.inuse = 0 →
      mu (k.resetDrained cf now) + 1 ≤ mu k := by
  -- a table that is reset weighs nothing and holds nothing
  have hle : ∀ f : Table → Nat, (∀ x : Table, f (x.reset now) = 0) → ∀ x ∈ k.old, f (resetIf cf now x) ≤ f x := by
    intro f hf x _
    rcases resetIf_cases cf now x with e | ⟨e, _⟩ <;> rw [e]
    · exact Nat.le_refl _
    · rw [hf]; exact Nat.zero_le _
  have hw := hle wt (fun _ => rfl)
  have hc : cnt (k.old.map (resetIf cf now)) ≤ cnt k.old := sum_map_map_le _ (hle (fun t => t.slots.length) (fun _ => rfl))
  -- the head stays, and its allowance follows the slots behind it
  have hmu : ∀ d, phi (k.old.map (resetIf cf now)) + d ≤ phi k.old → mu (k.resetDrained cf now) + d ≤ mu k := by
    intro d h1
    rw [mu, mu, resetDrained_old, show (k.resetDrained cf now).head = k.head from rfl]
    cases k.head with
    | none => exact h1
    | some hd =>
      dsimp only
      split
      · rw [Nat.add_right_comm]
        exact Nat.add_le_add h1 (Nat.add_le_add_right (Nat.add_le_add_right hc _) _)
      · exact h1
  refine ⟨hmu 0 (sum_map_map_le wt hw), fun t ht hcf hg hnr hz => hmu 1 (sum_map_map_lt wt hw ⟨t, ht, ?_⟩)⟩
  have e : resetIf cf now t = t.reset now :=
    if_pos (show (t.cf == cf && !isRecycled t && t.inuse == 0) = true by simp [hcf, hnr, hz])
  rw [e, wt_dirty hg]
  exact Nat.zero_lt_succ _

/-- Go's `Range` over the victim visits each of its keys once: the order handed to `compaction`. -/
def ValidOrder (k : KV) (order : List Nat) : Prop :=
  order.Nodup ∧ ∀ t rest, pickLast needsCompaction k.old = some (t, rest) → ∀ s ∈ t.slots, s.hk ∈ order

theorem slots_nil_of_evictBatch_nil {t : Table} {order : List Nat} {now : Int}
    (hcov : ∀ s ∈ t.slots, s.hk ∈ order) (he : evictBatch t order now = []) : t.slots = [] := by
  simp only [evictBatch, List.map_eq_nil_iff, List.take_eq_nil_iff, List.filterMap_eq_nil_iff] at he
  rcases he with he | he
  · cases he
  · exact List.eq_nil_iff_forall_not_mem.mpr fun s hs =>
      List.find?_eq_none.mp (he s.hk (hcov s hs)) s hs (beq_self_eq_true _)

theorem compaction_mu (k : KV) (w : k.WF) (hts : 0 < k.tableSize) (now : Int) (order : List Nat)
    (hv : ValidOrder k order) (hnd : (k.compaction now order).2 = false) :
    mu (k.compaction now order).1 + 1 ≤ mu k := by
  cases hp : pickLast needsCompaction k.old with
  | none => rw [compaction_of_none now order hp] at hnd; cases hnd
  | some q =>
    obtain ⟨t, rest⟩ := q
    rw [compaction_of_some now order hp]
    obtain ⟨htm, hneed⟩ := pickLast_mem hp
    have htnf : t ∈ k.newestFirst := mem_of_old htm
    -- garbage-heavy with `alloc = tableSize > 0`: the one use of `hts`
    have hg : t.garbage > 0 := by
      simp only [needsCompaction, Bool.or_eq_true, Bool.and_eq_true, beq_iff_eq, decide_eq_true_eq] at hneed
      rcases hneed with h | h
      · exact h.2
      · have ha : 0 < t.alloc := by rw [w.alloc t htnf]; exact hts
        exact Nat.pos_of_mul_pos_right (Nat.lt_of_lt_of_le (Nat.mul_pos ha (Nat.zero_lt_succ 1)) h)
    have hb_nd : ((evictBatch t order now).map (·.1)).Nodup := by
      simp only [evictBatch, List.map_map]
      show (((order.filterMap t.find).take 1001).map (·.hk)).Nodup
      refine (List.Sublist.map _ (List.take_sublist 1001 _)).nodup ?_
      rw [filterMap_find_hk]; exact hv.1.filter _
    have hfold := foldPutRaw_mu (evictBatch t order now) k w htm hg hb_nd (evictBatch_fits w htnf order now)
      (fun p hpm => (mem_evictBatch hpm).imp fun s hs => hs.2.1)
    obtain ⟨hle, hlt⟩ := resetDrained_mu ((evictBatch t order now).foldl (fun k p => (k.putRaw p.1 p.2).1) k) t.cf now
    cases hbe : evictBatch t order now with
    | nil =>
      -- nothing to move: the victim is empty, dirty and not recycled, and gets reset
      rw [hbe] at hlt
      have hsl := slots_nil_of_evictBatch_nil (hv.2 t rest hp) hbe
      exact hlt t htm rfl hg (dirty_not_recycled w htm hg) ((inuse_eq_zero_iff (w.acct t htnf)).mpr hsl)
    | cons p ps =>
      -- a non-empty batch has length ≥ 1
      rw [hbe] at hfold hle
      exact Nat.le_trans (Nat.add_le_add hle (Nat.le_add_left 1 _)) hfold

/-- the Range order of the table the next call will drain: its keys, each once -/
def rangeOrder (k : KV) : List Nat :=
  match pickLast needsCompaction k.old with
  | some (t, _) => keys t
  | none => []

theorem rangeOrder_valid (k : KV) (w : k.WF) : ValidOrder k (rangeOrder k) := by
  unfold ValidOrder rangeOrder
  cases hp : pickLast needsCompaction k.old with
  | none => exact ⟨List.nodup_nil, fun _ _ h => by cases h⟩
  | some q =>
    obtain ⟨t, rest⟩ := q
    refine ⟨w.nodup t (mem_of_old (pickLast_mem hp).1), ?_⟩
    intro t' rest' e s hs
    cases e
    exact List.mem_map_of_mem hs

/-- the worker loop of internal/dmap/compaction.go: call kvstore.Compaction until it answers done (`n` bounds
    the calls); `ord` picks the Range order of each call, `now` its clock reading. -/
def compactLoop (ord : KV → List Nat) (now : Nat → Int) : Nat → KV → KV × Bool
  | 0, k => (k, false)
  | n + 1, k =>
    let r := k.compaction (now n) (ord k)
    if r.2 then r else compactLoop ord now n r.1

theorem compactLoop_terminates (ord : KV → List Nat) (now : Nat → Int)
    (hord : ∀ k : KV, k.WF → ValidOrder k (ord k)) (n : Nat) (k : KV) (w : k.WF) (hts : 0 < k.tableSize)
    (hn : mu k < n) :
    (compactLoop ord now n k).2 = true ∧ (compactLoop ord now n k).1.WF ∧
    (compactLoop ord now n k).1.tableSize = k.tableSize ∧
    (∀ h, (compactLoop ord now n k).1.absV h = k.absV h) ∧
    (∀ t ∈ (compactLoop ord now n k).1.old, needsCompaction t = false) := by
  induction n generalizing k with
  | zero => exact absurd hn (Nat.not_lt_zero _)
  | succ n ih =>
    simp only [compactLoop]
    obtain ⟨w1, s1, a1⟩ := compaction_spec k w (now n) (ord k)
    cases hd : (k.compaction (now n) (ord k)).2 with
    | true => simp only [if_true]; exact ⟨hd, w1, s1, a1, compaction_done_result w hd⟩
    | false =>
      simp only [Bool.false_eq_true, if_false]
      have := compaction_mu k w hts (now n) (ord k) (hord k w) hd
      obtain ⟨a, b, c, d, e⟩ := ih _ w1 (s1 ▸ hts) (Nat.lt_of_lt_of_le this (Nat.le_of_lt_succ hn))
      exact ⟨a, b, by rw [c, s1], fun h => by rw [d h, a1 h], e⟩

theorem mu_le (k : KV) : mu k ≤ 2 * (k.stats.length) + k.old.length + 2 := by
  have h1 := phi_le k.old
  have hlen : k.stats.length = _ + cnt k.old := stats_length_split k
  have ha : mu k ≤ phi k.old + (cnt k.old + (k.head.toList.map (fun t => t.slots.length)).sum + 2) := by
    unfold mu
    refine Nat.add_le_add_left ?_ _
    cases k.head with
    | none => exact Nat.zero_le _
    | some hd =>
      dsimp only
      split
      · exact Nat.le_refl _
      · exact Nat.zero_le _
  omega

end KV
end Olric
