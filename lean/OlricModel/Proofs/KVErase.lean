/- The page loop with the store threaded through (every page stamps lastAccess on what it yields)
   yields what the loop over the unchanged store yields, lastAccess aside. -/
import OlricModel.Proofs.KVWalk
namespace Olric
open Table

/-- erase the lastAccess stamp (likewise for slots, tables, stores) -/
def Rec.er (r : Rec) : Rec := { r with la := 0 }
def Slot.er (s : Slot) : Slot := { s with r := s.r.er }
def Table.er (t : Table) : Table := { t with slots := t.slots.map Slot.er }

/-- the matcher does not depend on lastAccess (Go's patterns look at the key only) -/
def LaInd (m : Rec → Bool) : Prop := ∀ r : Rec, m r.er = m r

theorem Rec.core_er (r : Rec) : r.er.core = r.core := rfl

namespace Table

theorem scanAux_er (m : Rec → Bool) (hm : LaInd m) (l : List Slot) (count cur : Nat) (acc : List Slot) :
    scanAux m (l.map Slot.er) count cur (acc.map Slot.er) =
      ((scanAux m l count cur acc).1, (scanAux m l count cur acc).2.map Slot.er) := by
  fun_induction scanAux m l count cur acc with
  | case1 => simp [scanAux, List.map_reverse]
  | case2 => simp [scanAux, List.map_reverse]
  | case3 s rest count cur acc hc h ih =>
    rw [← ih, List.map_cons, scanAux, if_neg hc, if_pos (show m (Slot.er s).r = true from (hm s.r).trans h)]
    rfl
  | case4 s rest count cur acc hc h ih =>
    rw [← ih, List.map_cons, scanAux, if_neg hc, if_neg (show ¬m (Slot.er s).r = true from mt (hm s.r).symm.trans h)]

theorem touch_er (t : Table) (h : Nat) (now : Int) : (t.touch h now).er = t.er := by
  simp only [Table.er, touch, List.map_map]
  congr 1
  apply List.map_congr_left
  intro s _
  simp only [Function.comp]
  split <;> rfl

theorem foldl_touch_er (ys : List Slot) (t : Table) (now : Int) :
    (ys.foldl (fun t s => t.touch s.hk now) t).er = t.er := by
  induction ys generalizing t with
  | nil => rfl
  | cons y ys ih => simp only [List.foldl_cons]; rw [ih, touch_er]

theorem scan_snd_er (t : Table) (cursor count : Nat) (m : Rec → Bool) (now : Int) :
    (t.scan cursor count m now).2.2.er = t.er := foldl_touch_er _ _ _

theorem scan_er (t : Table) (cursor count : Nat) (m : Rec → Bool) (hm : LaInd m) (now : Int) :
    (t.er.scan cursor count m now).1 = (t.scan cursor count m now).1 ∧
    (t.er.scan cursor count m now).2.1 = (t.scan cursor count m now).2.1.map Rec.er := by
  have hf : t.er.slots.filter (fun s => decide (s.off ≥ cursor)) =
      (t.slots.filter (fun s => decide (s.off ≥ cursor))).map Slot.er := by
    simp only [Table.er, List.filter_map]
    rfl
  have := scanAux_er m hm (t.slots.filter (fun s => decide (s.off ≥ cursor))) count cursor []
  simp only [List.map_nil] at this
  simp only [Table.scan]
  rw [hf, this]
  refine ⟨rfl, ?_⟩
  simp only [List.map_map]
  rfl

end Table

namespace KV

def er (k : KV) : KV := { k with head := k.head.map Table.er, old := k.old.map Table.er }

theorem er_newestFirst (k : KV) : k.er.newestFirst = k.newestFirst.map Table.er := newestFirst_mapAll k Table.er

theorem er_tables (k : KV) : k.er.tables = k.tables.map Table.er := by
  simp only [er, tables]; cases k.head <;> simp

theorem er_isRecycled (t : Table) : isRecycled t.er = isRecycled t := rfl

theorem er_cfs (k : KV) : k.er.cfs = k.cfs := by
  simp only [cfs, er_tables, List.filter_map, List.map_map]
  rfl

theorem er_findCoefficient (k : KV) (c : Nat) : k.er.findCoefficient c = k.findCoefficient c := by
  simp only [findCoefficient, er_cfs]

theorem er_byCf (k : KV) (cf : Nat) : k.er.byCf cf = (k.byCf cf).map Table.er := by
  simp only [byCf, er_tables, List.find?_map]
  rfl

theorem er_tableSize (k : KV) : k.er.tableSize = k.tableSize := rfl

theorem er_scanSel (k : KV) (c : Nat) : k.er.scanSel c = (k.scanSel c).map (fun q => (q.1.er, q.2)) := by
  simp only [scanSel, er_byCf, er_findCoefficient, er_tableSize]
  cases k.byCf (c / k.tableSize) with
  | some t => rfl
  | none =>
    cases k.findCoefficient (c / k.tableSize) with
    | none => rfl
    | some n => simp only [Option.map_none, Option.map_map]; rfl

theorem er_nextCursor (k : KV) (cf tc : Nat) : k.er.nextCursor cf tc = k.nextCursor cf tc := by
  simp only [nextCursor, er_findCoefficient, er_tableSize]

theorem scan_er (k : KV) (c count : Nat) (m : Rec → Bool) (hm : LaInd m) (now : Int) :
    (k.er.scan c count m now).1 = (k.scan c count m now).1 ∧
    (k.er.scan c count m now).2.1 = (k.scan c count m now).2.1.map Rec.er := by
  by_cases hT : k.tableSize = 0
  · rw [scan_of_tableSize_zero hT, scan_of_tableSize_zero (k := k.er) hT]; exact ⟨rfl, rfl⟩
  · rw [scan_eq k.er hT, scan_eq k hT, er_scanSel]
    cases k.scanSel c with
    | none => exact ⟨rfl, rfl⟩
    | some q =>
      obtain ⟨e1, e2⟩ := Table.scan_er q.1 (q.2.2 - k.tableSize * q.2.1) count m hm now
      simp only [Option.map_some, er_tableSize, er_nextCursor, e1, true_and]
      exact e2

theorem scan_congr {k1 k2 : KV} (he : k1.er = k2.er) (c count : Nat) (m : Rec → Bool) (hm : LaInd m) (now : Int) :
    (k1.scan c count m now).1 = (k2.scan c count m now).1 ∧
    (k1.scan c count m now).2.1.map Rec.er = (k2.scan c count m now).2.1.map Rec.er := by
  obtain ⟨a1, b1⟩ := scan_er k1 c count m hm now
  obtain ⟨a2, b2⟩ := scan_er k2 c count m hm now
  rw [he] at a1 b1
  exact ⟨a1.symm.trans a2, b1.symm.trans b2⟩

theorem cfUnique_er (k : KV) : CfUnique k.er ↔ CfUnique k := by
  simp only [CfUnique, er_newestFirst, List.pairwise_map]
  exact Iff.rfl

theorem cfUnique_of_er_eq {k1 k2 : KV} (he : k1.er = k2.er) (h : CfUnique k1) : CfUnique k2 := by
  rw [← cfUnique_er] at h ⊢; rw [← he]; exact h

theorem mapCf_er {k : KV} (cu : CfUnique k) {cf : Nat} {t t' : Table} (hb : k.byCf cf = some t) (he : t'.er = t.er) :
    (k.mapCf cf (fun _ => t')).er = k.er := by
  have hg : ∀ x ∈ k.newestFirst, (if (!isRecycled x && x.cf == cf) = true then t' else x).er = x.er := by
    intro x hx
    split
    · rename_i hc
      simp only [Bool.and_eq_true, Bool.not_eq_eq_eq_not, Bool.not_true, beq_iff_eq] at hc
      rw [(byCf_eq_some_iff cu).mpr ⟨hx, hc⟩] at hb
      cases hb
      exact he
    · rfl
  simp only [mapCf, er]
  congr 1
  · rw [List.map_map]
    exact List.map_congr_left (fun x hx => hg x (mem_of_old hx))
  · cases hh : k.head with
    | none => rfl
    | some hd => exact congrArg some (hg hd (mem_of_head hh))

theorem scan_state_er (k : KV) (cu : CfUnique k) (c count : Nat) (m : Rec → Bool) (now : Int) :
    (k.scan c count m now).2.2.er = k.er := by
  by_cases hT : k.tableSize = 0
  · rw [scan_of_tableSize_zero hT]
  · rw [scan_eq k hT]
    cases h : k.scanSel c with
    | none => rfl
    | some q => exact mapCf_er cu (scanSel_byCf h) (Table.scan_snd_er q.1 _ count m now)

/-- the page loop as it runs: every page hands the (stamped) store to the next -/
def walkKV (m : Rec → Bool) (count : Nat) (now : Nat → Int) : Nat → Nat → KV → List Rec
  | 0, _, _ => []
  | f + 1, c, k =>
    let r := k.scan c count m (now f)
    if r.1 = 0 then r.2.1 else r.2.1 ++ walkKV m count now f r.1 r.2.2

/-- the induction needs two stores: after a page the threaded store `k1` has moved on, `k2` has not; each page
    answers alike on both (`scan_congr`) and hands on a store that still differs in stamps only (`scan_state_er`) -/
theorem walkKV_congr (m : Rec → Bool) (hm : LaInd m) (count : Nat) (now : Nat → Int) (f c : Nat) {k1 k2 : KV}
    (he : k1.er = k2.er) (cu : CfUnique k1) :
    (walkKV m count now f c k1).map Rec.er = (walkP k2 m count now f c).map Rec.er := by
  induction f generalizing c k1 with
  | zero => rfl
  | succ f ih =>
    obtain ⟨a, b⟩ := scan_congr he c count m hm (now f)
    have hs := scan_state_er k1 cu c count m (now f)
    simp only [walkKV, walkP, a]
    split
    · exact b
    · rw [List.map_append, List.map_append, b, ← a, ih _ (hs.trans he) (cfUnique_of_er_eq hs.symm cu)]

theorem walkKV_er (m : Rec → Bool) (hm : LaInd m) (count : Nat) (now : Nat → Int) (f : Nat) :
    ∀ (c : Nat) (k : KV), CfUnique k →
      (walkKV m count now f c k).map Rec.er = (walkP k m count now f c).map Rec.er :=
  fun c _ cu => walkKV_congr m hm count now f c rfl cu

end KV
end Olric
