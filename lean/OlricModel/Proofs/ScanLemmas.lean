/- Cursor-resumed scanning of one table: every matching slot exactly once. -/
import OlricModel.Proofs.TableLemmas
namespace Olric

theorem filter_filter_of_imp {α : Type} {p q : α → Bool} (h : ∀ a, q a = true → p a = true) (l : List α) :
    (l.filter p).filter q = l.filter q := by
  rw [List.filter_filter]
  exact List.filter_congr (fun a _ => Bool.and_eq_left_iff_imp.mpr (h a))

theorem filter_comm {α : Type} (p q : α → Bool) (l : List α) : (l.filter p).filter q = (l.filter q).filter p := by
  rw [List.filter_filter, List.filter_filter]
  exact List.filter_congr (fun a _ => Bool.and_comm _ _)

namespace Table

/-- insertion order = offset order -/
def Sorted (l : List Slot) : Prop := l.Pairwise (fun a b => a.off < b.off)

theorem off_lt_end (s : Slot) : s.off < s.off + s.r.size :=
  Nat.lt_add_of_pos_right (Nat.lt_of_lt_of_le (by decide) s.r.size_ge)

theorem sorted_of_layout {t : Table} (hl : t.Layout) : Sorted t.slots :=
  hl.1.imp (Nat.lt_of_lt_of_le (off_lt_end _))

/-- One page over a candidate list in offset order.  `res.1 = 0`: the candidates are exhausted and every
    match is yielded; `res.1 ≠ 0`: a prefix of the matches is yielded and what remains are the matching
    candidates at or after `res.1`.  The last clause (a page of `count ≥ 1` has passed a slot) is what
    makes fewer slots be left: the fuel of `walkTable_complete`.  `hcnt`: cursor 0 being the answer
    "exhausted", a page that yields nothing must not start there.  `res` stands for the call (`hres`), so
    that `fun_induction` generalises the call in `hres` alone and every case speaks of the same `res`. -/
theorem scanAux_spec (m : Rec → Bool) (l : List Slot) (count cur : Nat) (acc : List Slot) (hs : Sorted l)
    (hcur : ∀ s ∈ l, cur ≤ s.off) (hcnt : count = 0 → cur ≠ 0) {res : Nat × List Slot}
    (hres : scanAux m l count cur acc = res) :
    (res.1 = 0 → res.2 = acc.reverse ++ l.filter (fun s => m s.r)) ∧
    (res.1 ≠ 0 →
      res.2 ++ (l.filter (fun s => m s.r)).filter (fun s => decide (s.off ≥ res.1)) =
        acc.reverse ++ l.filter (fun s => m s.r) ∧
      cur ≤ res.1 ∧ (∃ s ∈ l, res.1 ≤ s.off) ∧ (1 ≤ count → ∃ s ∈ l, s.off < res.1)) := by
  fun_induction scanAux m l count cur acc with
  | case1 => subst hres; simp
  | case2 s rest cur acc =>  -- `count = 0`: the page is full
    subst hres
    exact ⟨fun h0 => absurd h0 (hcnt rfl),
      fun _ => ⟨by rw [List.filter_eq_self.mpr fun x hx => decide_eq_true (hcur x (List.mem_filter.mp hx).1)],
        Nat.le_refl _, ⟨s, List.mem_cons_self, hcur s List.mem_cons_self⟩, nofun⟩⟩
  | case3 s rest count cur acc hc hm ih =>
    obtain ⟨hlt, hs'⟩ := List.pairwise_cons.mp hs
    obtain ⟨i1, i2⟩ := ih hs' (fun x hx => hlt x hx) (fun _ => Nat.succ_ne_zero _) hres
    rw [List.reverse_cons, List.append_assoc, List.singleton_append] at i1 i2
    rw [List.filter_cons_of_pos (p := fun s : Slot => m s.r) hm]
    refine ⟨i1, fun hne => ?_⟩
    obtain ⟨e, hle, ⟨x, hx, hxr⟩, _⟩ := i2 hne
    rw [List.filter_cons_of_neg (p := fun s : Slot => decide (s.off ≥ res.1)) (by simp; exact hle)]
    exact ⟨e, Nat.le_trans (hcur s List.mem_cons_self) (Nat.le_of_succ_le hle), ⟨x, List.mem_cons_of_mem _ hx, hxr⟩,
      fun _ => ⟨s, List.mem_cons_self, hle⟩⟩
  | case4 s rest count cur acc hc hm ih =>
    obtain ⟨i1, i2⟩ := ih (List.pairwise_cons.mp hs).2 (fun x hx => hcur x (List.mem_cons_of_mem _ hx)) hcnt hres
    rw [List.filter_cons_of_neg (p := fun s : Slot => m s.r) hm]
    refine ⟨i1, fun hne => ?_⟩
    obtain ⟨e, hle, ⟨x, hx, hxr⟩, hp⟩ := i2 hne
    exact ⟨e, hle, ⟨x, List.mem_cons_of_mem _ hx, hxr⟩,
      fun h1 => (hp h1).imp (fun y hy => ⟨List.mem_cons_of_mem _ hy.1, hy.2⟩)⟩

/-- iterate table.Scan from `cursor` until it answers 0, collecting what every page yields -/
def walkTable (m : Rec → Bool) (slots : List Slot) (count : Nat) : Nat → Nat → List Slot
  | 0, _ => []
  | fuel + 1, cursor =>
    let res := scanAux m (slots.filter (fun s => decide (s.off ≥ cursor))) count cursor []
    if res.1 = 0 then res.2 else res.2 ++ walkTable m slots count fuel res.1

theorem filter_ge_zero (l : List Slot) : l.filter (fun s => decide (s.off ≥ 0)) = l :=
  List.filter_eq_self.mpr (fun _ _ => by simp)

theorem scan_fst (t : Table) (c count : Nat) (m : Rec → Bool) (now : Int) :
    (t.scan c count m now).1 = (scanAux m (t.slots.filter (fun s => decide (s.off ≥ c))) count c []).1 := rfl

theorem scan_recs (t : Table) (c count : Nat) (m : Rec → Bool) (now : Int) :
    (t.scan c count m now).2.1 =
      (scanAux m (t.slots.filter (fun s => decide (s.off ≥ c))) count c []).2.map (·.r) := rfl

theorem page_spec (m : Rec → Bool) (slots : List Slot) (count : Nat) (hs : Sorted slots) (hc : 1 ≤ count) (c : Nat) :
    let res := scanAux m (slots.filter (fun s => decide (s.off ≥ c))) count c []
    (res.1 = 0 → res.2 = (slots.filter (fun s => decide (s.off ≥ c))).filter (fun s => m s.r)) ∧
    (res.1 ≠ 0 →
      res.2 ++ (slots.filter (fun s => decide (s.off ≥ res.1))).filter (fun s => m s.r) =
        (slots.filter (fun s => decide (s.off ≥ c))).filter (fun s => m s.r) ∧
      (∃ s ∈ slots, res.1 ≤ s.off) ∧
      (slots.filter (fun s => decide (s.off ≥ res.1))).length < (slots.filter (fun s => decide (s.off ≥ c))).length) := by
  obtain ⟨i1, i2⟩ := scanAux_spec m (slots.filter (fun s => decide (s.off ≥ c))) count c []
    (hs.sublist List.filter_sublist) (fun s h => of_decide_eq_true (List.mem_filter.mp h).2) (fun h => by omega) rfl
  refine ⟨i1, fun hne => ?_⟩
  obtain ⟨e, hle, ⟨x, hx, hxr⟩, hp⟩ := i2 hne
  obtain ⟨y, hy, hyr⟩ := hp hc
  rw [← filter_filter_of_imp (p := fun s => decide (s.off ≥ c))
    (fun _ hb => decide_eq_true (Nat.le_trans hle (of_decide_eq_true hb))) slots, filter_comm]
  exact ⟨e, ⟨x, (List.mem_filter.mp hx).1, hxr⟩,
    List.length_filter_lt_length_iff_exists.mpr ⟨y, hy, by simpa using hyr⟩⟩

/-- C12 for one table, stated for any slot list in offset order (whatever holes deletes left): every matching
    slot at or after the cursor exactly once, in order, within (slots left + 1) pages. -/
theorem walkTable_complete (m : Rec → Bool) (slots : List Slot) (count : Nat) (hs : Sorted slots)
    (hc : 1 ≤ count) (fuel cursor : Nat)
    (hf : (slots.filter (fun s => decide (s.off ≥ cursor))).length < fuel) :
    walkTable m slots count fuel cursor =
      (slots.filter (fun s => decide (s.off ≥ cursor))).filter (fun s => m s.r) := by
  fun_induction walkTable m slots count fuel cursor with
  | case1 => exact absurd hf (Nat.not_lt_zero _)
  | case2 fuel cursor res h0 => exact (page_spec m slots count hs hc cursor).1 h0
  | case3 fuel cursor res h0 ih =>
    obtain ⟨e, _, hlen⟩ := (page_spec m slots count hs hc cursor).2 h0
    rw [ih (Nat.lt_of_lt_of_le hlen (Nat.le_of_lt_succ hf)), e]

end Table
end Olric
