/- delete / get / updateTTL: under the uniqueness invariant "apply to the newest version" is "apply
   to every table", so each of the three is `mapAll` of a `Stable` function. -/
import OlricModel.Proofs.KVWF
namespace Olric
open Table
namespace KV

theorem setNewestFirst_map (k : KV) (g : Table → Table) : k.setNewestFirst (k.newestFirst.map g) = k.mapAll g := by
  unfold setNewestFirst mapAll newestFirst
  cases k.head <;> simp

theorem setNewestFirst_self (k : KV) : k.setNewestFirst k.newestFirst = k := by
  obtain ⟨_, _, _, _, head⟩ := k
  cases head <;> rfl

theorem map_id_of_findIn_none (g : Table → Table) (ts : List Table) (h : Nat)
    (hg : ∀ t, t.find h = none → g t = t) (hn : findIn ts h = none) : ts.map g = ts :=
  (List.map_congr_left (fun t ht => hg t ((findIn_eq_none_iff ts h).mp hn t ht))).trans (List.map_id ts)

theorem onFirst_eq_map (f : Table → Option Table) (g : Table → Table) (h : Nat) {ts : List Table}
    (hnone : ∀ t, t.find h = none → f t = none ∧ g t = t)
    (hsome : ∀ t s, t.find h = some s → f t = some (g t))
    (hp : ts.Pairwise Disj) :
    onFirst f ts = if (findIn ts h).isSome then some (ts.map g) else none := by
  induction ts with
  | nil => simp [onFirst, findIn]
  | cons t ts ih =>
    rw [List.pairwise_cons] at hp
    cases ht : t.find h with
    | none =>
      obtain ⟨f0, g0⟩ := hnone t ht
      simp only [onFirst, f0, findIn_cons, ht, ih hp.2, List.map_cons, g0]
      split <;> simp
    | some s =>
      -- no other table holds `h`, so `g` leaves them as they are
      have hid : ts.map g = ts :=
        map_id_of_findIn_none g ts h (fun t ht => (hnone t ht).2)
          ((findIn_eq_none_iff ts h).mpr (fun b hb => (hp.1 b hb h).resolve_left (by simp [ht])))
      simp [onFirst, hsome t s ht, findIn_cons, ht, hid]

/-- What the loop shared by kvstore.Delete, Get and UpdateTTL (newest table first, `break` at the first
    hit) does to the store when `f` acts on the table holding `h` as `g` does and fails elsewhere:
    absent key, nothing; present key, `g` on every table. -/
theorem onFirst_store (k : KV) (hu : k.Unique) (f : Table → Option Table) (g : Table → Table) (h : Nat)
    (hnone : ∀ t, t.find h = none → f t = none ∧ g t = t)
    (hsome : ∀ t s, t.find h = some s → f t = some (g t)) :
    (onFirst f k.newestFirst = none ∧ k.lookup h = none ∧ k.mapAll g = k) ∨
    (∃ ts, onFirst f k.newestFirst = some ts ∧ k.setNewestFirst ts = k.mapAll g ∧ (k.lookup h).isSome = true) := by
  rw [onFirst_eq_map f g h hnone hsome hu, lookup]
  cases hl : findIn k.newestFirst h with
  | none =>
    refine Or.inl ⟨rfl, rfl, ?_⟩
    rw [← setNewestFirst_map, map_id_of_findIn_none g _ h (fun t ht => (hnone t ht).2) hl, setNewestFirst_self]
  | some s => exact Or.inr ⟨_, rfl, setNewestFirst_map k g, rfl⟩

/-- in-place update of the record stored under `h` (touch, UpdateTTL) -/
def updRec (h : Nat) (f : Rec → Rec) (t : Table) : Table :=
  { t with slots := t.slots.map (fun s => if s.hk == h then { s with r := f s.r } else s) }

theorem find_updRec (h : Nat) (f : Rec → Rec) (t : Table) (h' : Nat) :
    (updRec h f t).find h' = (t.find h').map (fun s => if s.hk == h then { s with r := f s.r } else s) :=
  find?_map_hk (upd_slot_hk h f) t.slots h'

theorem stable_mapSlots {g : Slot → Slot} (hk : ∀ s, (g s).hk = s.hk) (ho : ∀ s, (g s).off = s.off)
    (hs : ∀ s, (g s).r.size = s.r.size) (hkey : ∀ s, (g s).r.key = s.r.key) :
    Stable (fun t => { t with slots := t.slots.map g }) where
  state _ := rfl
  alloc _ := rfl
  off _ := rfl
  nil t ht := congrArg (List.map g) ht
  none t h hn := (find?_map_hk hk t.slots h).trans (congrArg (Option.map g) hn)
  nodup t hn := by rw [keys, List.map_map, show (·.hk) ∘ g = (·.hk) from funext hk]; exact hn
  acct t _ ha := by rw [sumSize, List.map_map, show (·.r.size) ∘ g = (·.r.size) from funext hs]; exact ha
  fits t n hfit := List.forall_mem_map.mpr fun x hx => by rw [hs, hkey]; exact hfit x hx
  tot t _ _ ht := ht
  layout t hl :=
    ⟨List.pairwise_map.mpr (hl.1.imp fun {a b} hab => by rw [ho, hs, ho]; exact hab),
      List.forall_mem_map.mpr fun x hx => by rw [ho, hs]; exact hl.2 x hx⟩

theorem stable_updRec (h : Nat) {f : Rec → Rec} (hf : ∀ r, (f r).size = r.size) (hfk : ∀ r, (f r).key = r.key) :
    Stable (updRec h f) :=
  stable_mapSlots (upd_slot_hk h f) (fun s => by split <;> rfl) (fun s => by split; exact hf _; rfl)
    (fun s => by split; exact hfk _; rfl)

theorem updRec_id_of_none {h : Nat} {f : Rec → Rec} {t : Table} (hn : t.find h = none) : updRec h f t = t := by
  have e : t.slots.map (fun s => if s.hk == h then { s with r := f s.r } else s) = t.slots :=
    (List.map_congr_left (fun s hs => if_neg (by simpa using List.find?_eq_none.mp hn s hs))).trans (List.map_id _)
  rw [updRec, e]

theorem touch_eq_updRec (t : Table) (h : Nat) (now : Int) : t.touch h now = updRec h (fun r => { r with la := now }) t := rfl

theorem delete_eq (k : KV) (hu : k.Unique) (h : Nat) : k.delete h = k.mapAll (fun t => t.deleteD h) := by
  unfold delete
  rcases onFirst_store k hu (fun t => t.delete h) (fun t => t.deleteD h) h
      (fun t ht => ⟨by simp [Table.delete, ht], deleteD_of_find_none ht⟩)
      (fun _ _ hf => delete_of_find_some hf) with ⟨e, _, e'⟩ | ⟨ts, e, e', _⟩ <;> rw [e]
  · exact e'.symm
  · exact e'

theorem get_eq (k : KV) (hu : k.Unique) (h : Nat) (now : Int) :
    k.get h now = (k.lookup h, k.mapAll (updRec h (fun r => { r with la := now }))) := by
  unfold get
  rcases onFirst_store k hu (fun t => (t.get h now).map (·.2)) (updRec h (fun r => { r with la := now })) h
      (fun t ht => ⟨by simp [Table.get, ht], updRec_id_of_none ht⟩)
      (fun t s hf => by simp [Table.get, hf, touch_eq_updRec]) with ⟨e, l, e'⟩ | ⟨ts, e, e', _⟩ <;> rw [e]
  · simp only [l, e']
  · simp only [e']

theorem updateTTL_eq (k : KV) (hu : k.Unique) (h : Nat) (ttl ts now : Int) :
    k.updateTTL h ttl ts now =
      (k.mapAll (updRec h (fun r => { r with ttl := ttl, ts := ts, la := now })), (k.lookup h).isSome) := by
  unfold updateTTL
  rcases onFirst_store k hu (fun t => t.updateTTL h ttl ts now)
      (updRec h (fun r => { r with ttl := ttl, ts := ts, la := now })) h
      (fun t ht => ⟨by simp [Table.updateTTL, ht], updRec_id_of_none ht⟩)
      (fun t s hf => by simp [Table.updateTTL, hf, updRec]) with ⟨e, l, e'⟩ | ⟨tabs, e, e', l⟩ <;> rw [e]
  · simp only [l, e', Option.isSome_none]
  · simp only [l, e']

theorem delete_spec (k : KV) (w : k.WF) (h : Nat) :
    (k.delete h).WF ∧ (k.delete h).tableSize = k.tableSize ∧
    ∀ h', (k.delete h).lookup h' = if h' = h then none else k.lookup h' := by
  rw [delete_eq k w.unique]
  refine ⟨mapAll_wf k w (stable_deleteD h), rfl, fun h' => ?_⟩
  rw [lookup, newestFirst_mapAll, findIn_map_deleteD]
  exact apply_ite (Option.map Slot.r) _ _ _

theorem findIn_map_updRec (ts : List Table) (h : Nat) (f : Rec → Rec) (h' : Nat) :
    findIn (ts.map (updRec h f)) h' =
      (findIn ts h').map (fun s => if s.hk == h then { s with r := f s.r } else s) := by
  induction ts with
  | nil => rfl
  | cons t ts ih =>
    rw [List.map_cons, findIn_cons, findIn_cons, find_updRec, ih]
    cases t.find h' <;> rfl

theorem lookup_mapAll_updRec (k : KV) (h : Nat) {f : Rec → Rec} (h' : Nat) :
    (k.mapAll (updRec h f)).lookup h' = if h' = h then (k.lookup h).map f else k.lookup h' := by
  rw [lookup, lookup, lookup, newestFirst_mapAll, findIn_map_updRec, Option.map_map]
  -- a slot found under `h'` has this hkey
  split
  · rename_i e
    rw [← e, Option.map_map]
    exact Option.map_congr fun s hs => by simp [findIn_hk hs]
  · rename_i e
    exact Option.map_congr fun s hs => by simp [show ¬ s.hk = h from findIn_hk hs ▸ e]

theorem get_spec (k : KV) (w : k.WF) (h : Nat) (now : Int) :
    (k.get h now).2.WF ∧ (k.get h now).2.tableSize = k.tableSize ∧ (k.get h now).1 = k.lookup h ∧
    ∀ h', (k.get h now).2.lookup h' =
      if h' = h then (k.lookup h).map (fun r => { r with la := now }) else k.lookup h' := by
  rw [get_eq k w.unique]
  exact ⟨mapAll_wf k w (stable_updRec h (fun _ => rfl) (fun _ => rfl)), rfl, rfl, lookup_mapAll_updRec k h⟩

theorem updateTTL_spec (k : KV) (w : k.WF) (h : Nat) (ttl ts now : Int) :
    (k.updateTTL h ttl ts now).1.WF ∧ (k.updateTTL h ttl ts now).1.tableSize = k.tableSize ∧
    (k.updateTTL h ttl ts now).2 = (k.lookup h).isSome ∧
    ∀ h', (k.updateTTL h ttl ts now).1.lookup h' =
      if h' = h then (k.lookup h).map (fun r => { r with ttl := ttl, ts := ts, la := now }) else k.lookup h' := by
  rw [updateTTL_eq k w.unique]
  exact ⟨mapAll_wf k w (stable_updRec h (fun _ => rfl) (fun _ => rfl)), rfl, rfl, lookup_mapAll_updRec k h⟩

end KV
end Olric
