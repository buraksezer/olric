/- A predicate kept by the five transformers the store operations are made of is kept by every operation. -/
import OlricModel.Proofs.KVCompact
import OlricModel.Proofs.KVOps
namespace Olric
open Table
namespace KV

/-- `P` is kept by makeTable, commit of a write into the head, a `Stable` function on every table (deleteD,
    updRec: they keep the coefficient too), resetDrained and dropping tables of `old`, each under what is known
    where an operation calls it (makeTable: a record to be written does not fit the head, or there is none).
    `Q` is what `P` asks of a record that is written; compaction writes stored records again. -/
structure Invariant (Q : Rec → Prop) (P : KV → Prop) : Prop where
  stored : ∀ k, P k → ∀ t ∈ k.newestFirst, ∀ s ∈ t.slots, ∀ now, Q { s.r with la := now }
  makeTable : ∀ k r, k.WF → P k → Q r → (∀ x, k.head = some x → r.size + x.off ≥ x.alloc) → P k.makeTable
  commit : ∀ k hd h r, k.WF → P k → k.head = some hd → Q r → r.size + hd.off < hd.alloc →
    P (k.commit (hd.write h r) h)
  mapAll : ∀ k g, Stable g → (∀ t, (g t).cf = t.cf) → k.WF → P k → P (k.mapAll g)
  resetDrained : ∀ k cf now, k.WF → P k → P (k.resetDrained cf now)
  dropOld : ∀ k old', old'.Sublist k.old → k.WF → P k → P { k with old := old' }

variable {Q : Rec → Prop} {P : KV → Prop}

theorem Invariant.putRaw (c : Invariant Q P) (k : KV) (w : k.WF) (p : P k) (h : Nat) (r : Rec) (hq : Q r) :
    P (k.putRaw h r).1 := by
  by_cases hbig : r.size ≥ k.tableSize
  · rw [putRaw_big h hbig]; exact p
  · obtain ⟨k0, hd, p0, w0, hh, hfit, e⟩ :=
      putRaw_eq_commit k w h r (Nat.lt_of_not_le hbig) p (c.makeTable k r w p hq)
    rw [e]
    exact c.commit k0 hd h r w0 p0 hh hq hfit

theorem Invariant.put (c : Invariant Q P) (k : KV) (w : k.WF) (p : P k) (h : Nat) (r : Rec) (now : Int)
    (hq : Q { r with la := now }) : P (k.put h r now).1 := by
  rw [KV.put_eq]
  by_cases hb : r.size ≥ k.tableSize
  · rw [if_pos hb]; exact p
  · rw [if_neg hb]
    by_cases hk : r.key.length ≥ 256
    · rw [if_pos hk, ensureHead]
      cases hh : k.head with
      | some _ => exact p
      | none => exact c.makeTable k _ w p hq (fun x hx => nomatch hh.symm.trans hx)
    · rw [if_neg hk]; exact c.putRaw k w p h _ hq

theorem Invariant.delete (c : Invariant Q P) (k : KV) (w : k.WF) (p : P k) (h : Nat) : P (k.delete h) := by
  rw [delete_eq k w.unique]; exact c.mapAll k _ (stable_deleteD h) (deleteD_cf · h) w p

theorem Invariant.get (c : Invariant Q P) (k : KV) (w : k.WF) (p : P k) (h : Nat) (now : Int) : P (k.get h now).2 := by
  rw [get_eq k w.unique]; exact c.mapAll k _ (stable_updRec h (fun _ => rfl) (fun _ => rfl)) (fun _ => rfl) w p

theorem Invariant.updateTTL (c : Invariant Q P) (k : KV) (w : k.WF) (p : P k) (h : Nat) (ttl ts now : Int) :
    P (k.updateTTL h ttl ts now).1 := by
  rw [updateTTL_eq k w.unique]; exact c.mapAll k _ (stable_updRec h (fun _ => rfl) (fun _ => rfl)) (fun _ => rfl) w p

theorem Invariant.compaction (c : Invariant Q P) (k : KV) (w : k.WF) (p : P k) (now : Int) (order : List Nat) :
    P (k.compaction now order).1 := by
  cases hp : pickLast needsCompaction k.old with
  | some q =>
    obtain ⟨t, rest⟩ := q
    rw [compaction_of_some now order hp]
    have htnf : t ∈ k.newestFirst := mem_of_old (pickLast_mem hp).1
    -- the batch is made of records stored in `k`
    have hq : ∀ x ∈ evictBatch t order now, Q x.2 := by
      intro x hx
      obtain ⟨s, hs, _, e⟩ := mem_evictBatch hx
      rw [e]; exact c.stored k p t htnf s hs now
    obtain ⟨wb, -, pb⟩ := List.foldlRecOn (motive := fun b => b.WF ∧ b.tableSize = k.tableSize ∧ P b)
      (evictBatch t order now) _ ⟨w, rfl, p⟩ (fun b ⟨wb, sb, pb⟩ x hx =>
        have ps := putRaw_spec b wb x.1 x.2 (sb ▸ evictBatch_fits w htnf order now x hx)
        ⟨ps.1, ps.2.1.trans sb, c.putRaw b wb pb x.1 x.2 (hq x hx)⟩)
    exact c.resetDrained _ _ _ wb pb
  | none =>
    rw [compaction_of_none now order hp]
    exact c.dropOld k _ (sweep_spec (k.isExpiredAt now) k.old k.tables.length w.recEmpty).1 w p

end KV
end Olric
