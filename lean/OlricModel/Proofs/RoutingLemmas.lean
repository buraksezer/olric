/-
  What the list operations of Cluster/Routing.lean do.  `removeFirst` is core's `List.eraseP`, and both branches of
  `moveToEnd` are then the same expression, so proofs about the routing computation need no case split on them.
  Also here: the `keeps_id` lemmas, and `oldest_eq_none` / `oldest_some` / `oldest_iff`, on which what is said of
  `coordinator` rests.
-/
import OlricModel.Cluster.Routing
namespace Olric.Routing

theorem removeFirst_eq_eraseP (x : Mem) (l : List Mem) : removeFirst x l = l.eraseP (fun o => o.id == x.id) := by
  induction l with
  | nil => rfl
  | cons a r ih => simp only [removeFirst, List.eraseP_cons, ih]; cases a.id == x.id <;> rfl

theorem moveToEnd_eq (l : List Mem) (x : Mem) : moveToEnd l x = l.eraseP (fun o => o.id == x.id) ++ [x] := by
  unfold moveToEnd
  split
  · rw [removeFirst_eq_eraseP]
  · rename_i h
    rw [List.eraseP_of_forall_not (fun a ha pa => h (List.any_eq_true.mpr ⟨a, ha, pa⟩))]

theorem mem_moveToEnd {l : List Mem} {x y : Mem} (h : y ∈ moveToEnd l x) : y = x ∨ y ∈ l := by
  rw [moveToEnd_eq, List.mem_append, List.mem_singleton] at h
  exact h.symm.imp_right List.mem_of_mem_eraseP

/-- by id, not by element: the entry with `x`'s id is replaced by `x` -/
theorem moveToEnd_keeps_id {l : List Mem} (x : Mem) {i : Nat} (h : ∃ o ∈ l, o.id = i) : ∃ o ∈ moveToEnd l x, o.id = i := by
  obtain ⟨o, ho, rfl⟩ := h
  rw [moveToEnd_eq]
  by_cases e : o.id = x.id
  · exact ⟨x, List.mem_append_right _ (List.mem_singleton_self x), e.symm⟩
  · exact ⟨o, List.mem_append_left _ ((List.mem_eraseP_of_neg (by simpa using e)).mpr ho), rfl⟩

theorem foldl_moveToEnd_keeps_id (news : List Mem) {l : List Mem} {i : Nat} (h : ∃ o ∈ l, o.id = i) :
    ∃ o ∈ news.foldl moveToEnd l, o.id = i := by
  induction news generalizing l with
  | nil => exact h
  | cons x rest ih => exact ih (moveToEnd_keeps_id x h)

/-! ### with distinct ids: removing the first entry with an id removes every entry with that id -/

theorem nodup_filter_ids (p : Mem → Bool) {l : List Mem} (h : (l.map (·.id)).Nodup) : ((l.filter p).map (·.id)).Nodup :=
  h.sublist (List.filter_sublist.map _)

theorem eraseP_id_eq_filter (x : Mem) {l : List Mem} (h : (l.map (·.id)).Nodup) :
    l.eraseP (fun o => o.id == x.id) = l.filter (fun b => b.id != x.id) := by
  induction l with
  | nil => rfl
  | cons a r ih =>
    rw [List.map_cons, List.nodup_cons] at h
    rw [List.eraseP_cons, List.filter_cons, bne]
    cases hax : a.id == x.id
    · exact congrArg (a :: ·) (ih h.2)
    · -- `a` is the entry removed; no entry of `r` has its id, so the filter keeps all of `r`
      refine (List.filter_eq_self.mpr fun b hb => ?_).symm
      rw [bne_iff_ne, ← beq_iff_eq.mp hax]
      exact fun e => h.1 (e ▸ List.mem_map_of_mem hb)

theorem moveToEnd_eq_filter {l : List Mem} (x : Mem) (h : (l.map (·.id)).Nodup) :
    moveToEnd l x = l.filter (fun b => b.id != x.id) ++ [x] := by
  rw [moveToEnd_eq, eraseP_id_eq_filter x h]

theorem nodup_moveToEnd {l : List Mem} (x : Mem) (h : (l.map (·.id)).Nodup) : ((moveToEnd l x).map (·.id)).Nodup := by
  rw [moveToEnd_eq_filter x h, ((List.perm_append_singleton x _).map _).nodup_iff, List.map_cons, List.nodup_cons]
  refine ⟨fun hm => ?_, nodup_filter_ids _ h⟩
  -- the filter kept no entry with the id of `x`
  obtain ⟨z, hz, e⟩ := List.mem_map.mp hm
  simpa [e] using (List.mem_filter.mp hz).2

theorem foldl_moveToEnd (news : List Mem) {l : List Mem} (hl : (l.map (·.id)).Nodup) (hn : (news.map (·.id)).Nodup) :
    news.foldl moveToEnd l = l.filter (fun b => !news.any (fun n => n.id == b.id)) ++ news := by
  induction news generalizing l with
  | nil => simpa using (List.filter_eq_self.mpr fun _ _ => rfl).symm
  | cons x rest ih =>
    rw [List.map_cons, List.nodup_cons] at hn
    have hx : rest.any (fun n => n.id == x.id) = false :=
      List.any_eq_false.mpr fun n hm => by simpa using fun e : n.id = x.id => hn.1 (e ▸ List.mem_map_of_mem hm)
    rw [List.foldl_cons, ih (nodup_moveToEnd x hl) hn.2, moveToEnd_eq_filter x hl, List.filter_append, List.filter_filter]
    -- "not `x` and none of `rest`" is "none of `x :: rest`"; `x` itself passes the second filter (`hx`)
    simp [hx, bne, BEq.comm (a := x.id), Bool.and_comm]

theorem mem_prune {live : List Mem} {count : Mem → Option Nat} {owners : List Mem} {o : Mem} :
    o ∈ pruneEmpty count (pruneDead live owners) ↔ o ∈ owners ∧ alive live o = true ∧ count o ≠ some 0 := by
  simp only [pruneEmpty, pruneDead, List.mem_filter, bne_iff_ne, ne_eq, and_assoc]

theorem nodup_prune (live : List Mem) (count : Mem → Option Nat) {owners : List Mem} (h : (owners.map (·.id)).Nodup) :
    ((pruneEmpty count (pruneDead live owners)).map (·.id)).Nodup :=
  nodup_filter_ids _ (nodup_filter_ids _ h)

/-! ### the two computations: the first-run branch (`owners = []`) is the general expression at `[]` -/

theorem distributePrimary_eq (live : List Mem) (count : Mem → Option Nat) (owners : List Mem) (ro : Mem) :
    distributePrimary live count owners ro = moveToEnd (pruneEmpty count (pruneDead live owners)) ro := by
  unfold distributePrimary
  split
  · rename_i h; subst h; rfl
  · rfl

theorem distributeBackups_eq (live : List Mem) (count : Mem → Option Nat) {owners cs : List Mem}
    (ho : (owners.map (·.id)).Nodup) (hcs : (cs.tail.map (·.id)).Nodup) :
    distributeBackups live count owners (some cs) =
      (pruneEmpty count (pruneDead live owners)).filter (fun b => !cs.tail.any (fun n => n.id == b.id)) ++ cs.tail := by
  simp only [distributeBackups]
  split
  · rename_i h; subst h; rfl
  · exact foldl_moveToEnd _ (nodup_prune live count ho) hcs

theorem oldest_eq_none {l : List (Mem × Int)} : oldest l = none ↔ l = [] := by
  cases l with
  | nil => simp [oldest]
  | cons a r =>
    simp only [oldest]
    split
    · simp
    · split <;> simp

theorem oldest_some {l : List (Mem × Int)} {x : Mem × Int} (h : oldest l = some x) : x ∈ l ∧ ∀ y ∈ l, x.2 ≤ y.2 := by
  induction l generalizing x with
  | nil => cases h
  | cons a r ih =>
    simp only [oldest] at h
    split at h
    · rename_i hr
      rw [oldest_eq_none.mp hr, ← Option.some.inj h]
      simp
    · rename_i y hr
      have ⟨hy, hmin⟩ := ih hr
      split at h <;> cases h <;> rename_i hlt
      · exact ⟨List.mem_cons_of_mem _ hy, List.forall_mem_cons.mpr ⟨Int.le_of_lt hlt, hmin⟩⟩
      · exact ⟨List.mem_cons_self, List.forall_mem_cons.mpr
          ⟨Int.le_refl _, fun z hz => Int.le_trans (Int.not_lt.mp hlt) (hmin z hz)⟩⟩

theorem oldest_iff {l : List (Mem × Int)} (hd : ∀ x ∈ l, ∀ y ∈ l, x.2 = y.2 → x = y) {x : Mem × Int} :
    oldest l = some x ↔ x ∈ l ∧ ∀ y ∈ l, x.2 ≤ y.2 := by
  refine ⟨oldest_some, fun ⟨hx, hmin⟩ => ?_⟩
  cases h : oldest l with
  | none => rw [oldest_eq_none.mp h] at hx; cases hx
  | some y =>
    have ⟨hy, hymin⟩ := oldest_some h
    rw [hd y hy x hx (Int.le_antisymm (hymin x hx) (hmin y hy))]

theorem averageLoad_room {partitions members loadNum loadDen : Nat} (hm : 0 < members) (hpm : members ≤ partitions)
    (hden : 0 < loadDen) (hld : loadDen < loadNum) :
    members * averageLoad partitions members loadNum loadDen ≥ partitions := by
  have hq : partitions / members ≥ 1 := (Nat.one_le_div_iff hm).mpr hpm
  -- ⌈q · num / den⌉ ≥ q + 1 for q ≥ 1, since q · num ≥ q · den + q
  have h1 : (partitions / members * loadNum + loadDen - 1) / loadDen ≥ partitions / members + 1 := by
    refine (Nat.le_div_iff_mul_le hden).mpr ?_
    have := Nat.mul_le_mul_left (partitions / members) hld
    rw [Nat.mul_succ] at this
    have h2 : partitions / members * loadDen < partitions / members * loadNum :=
      Nat.le_trans (Nat.add_le_add_left hq _) this
    rw [Nat.add_mul, Nat.one_mul]
    exact Nat.le_sub_one_of_lt (Nat.add_lt_add_right h2 loadDen)
  simp only [averageLoad, Nat.ne_of_gt hm, if_false]
  exact Nat.le_trans (Nat.le_of_lt (Nat.lt_mul_div_succ partitions hm)) (Nat.mul_le_mul_left members h1)

end Olric.Routing
