/- Lookup across a list of tables (`findIn`, newest first) when no two of them hold the same key, `pickLast`
   as a split of the list, and `makeTable` seen from the lookups; the map a store implements (`absV`) with what a
   step that touches one key does to it (`absV_set`, `absV_of_same_core`); at the head the general
   `eq_or_rel_of_pairwise`.  Nothing here needs the store invariant. -/
import OlricModel.Proofs.TableLemmas
namespace Olric
open Table

theorem eq_or_rel_of_pairwise {α : Type} {R : α → α → Prop} (hs : ∀ {a b}, R a b → R b a) {ts : List α}
    (hp : ts.Pairwise R) {a b : α} (ha : a ∈ ts) (hb : b ∈ ts) : a = b ∨ R a b :=
  List.Pairwise.forall_of_forall_of_flip (R := fun x y => x = y ∨ R x y) (fun _ _ => Or.inl rfl) (hp.imp Or.inr)
    (hp.imp (fun h => Or.inr (hs h))) ha hb

namespace KV

def Disj (a b : Table) : Prop := ∀ h, a.find h = none ∨ b.find h = none

def RecEmpty (ts : List Table) : Prop := ∀ t ∈ ts, isRecycled t = true → t.slots = []

/-- a key has at most one live version in the store -/
def Unique (k : KV) : Prop := k.newestFirst.Pairwise Disj

theorem newestFirst_of_head {k : KV} {hd : Table} (hh : k.head = some hd) : k.newestFirst = hd :: k.old := by
  rw [newestFirst, hh]; rfl

theorem commit_newestFirst (k : KV) (hd : Table) (h : Nat) :
    (k.commit hd h).newestFirst = hd :: k.old.map (fun t => t.deleteD h) := rfl

theorem disj_symm {a b : Table} (d : Disj a b) : Disj b a := fun h => (d h).symm

theorem findIn_cons (t : Table) (ts : List Table) (h : Nat) :
    findIn (t :: ts) h = match t.find h with | some s => some s | none => findIn ts h := rfl

theorem findIn_append (as bs : List Table) (h : Nat) :
    findIn (as ++ bs) h = match findIn as h with | some s => some s | none => findIn bs h := by
  induction as with
  | nil => simp [findIn]
  | cons a as ih => simp only [List.cons_append, findIn_cons, ih]; cases a.find h <;> rfl

theorem findIn_eq_none_iff (ts : List Table) (h : Nat) : findIn ts h = none ↔ ∀ t ∈ ts, t.find h = none := by
  induction ts with
  | nil => simp [findIn]
  | cons t ts ih =>
    rw [findIn_cons, List.forall_mem_cons, ← ih]
    cases t.find h <;> simp

theorem findIn_map_deleteD (ts : List Table) (h h' : Nat) :
    findIn (ts.map (fun t => t.deleteD h)) h' = if h' = h then none else findIn ts h' := by
  induction ts with
  | nil => simp [findIn]
  | cons t ts ih =>
    simp only [List.map_cons, findIn_cons, find_deleteD, ih]
    by_cases hh : h' = h <;> simp [hh]

theorem findIn_map_congr (g : Table → Table) (ts : List Table) (hg : ∀ t ∈ ts, ∀ h, (g t).find h = t.find h)
    (h : Nat) : findIn (ts.map g) h = findIn ts h := by
  induction ts with
  | nil => rfl
  | cons t ts ih =>
    simp only [List.map_cons, findIn_cons, hg t List.mem_cons_self h,
      ih (fun x hx => hg x (List.mem_cons_of_mem _ hx))]

theorem findIn_some {ts : List Table} {h : Nat} {s : Slot} (hf : findIn ts h = some s) : ∃ t ∈ ts, t.find h = some s := by
  induction ts with
  | nil => cases hf
  | cons t ts ih =>
    rw [findIn_cons] at hf
    cases ht : t.find h with
    | some x => rw [ht] at hf; exact ⟨t, List.mem_cons_self, ht.trans hf⟩
    | none =>
      rw [ht] at hf
      obtain ⟨x, hx, hxs⟩ := ih hf
      exact ⟨x, List.mem_cons_of_mem _ hx, hxs⟩

theorem findIn_hk {ts : List Table} {h : Nat} {s : Slot} (hf : findIn ts h = some s) : s.hk = h := by
  obtain ⟨t, _, ht⟩ := findIn_some hf
  exact find_hk ht

theorem findIn_skip (l1 l2 : List Table) {t : Table} {h : Nat} (hn : t.find h = none) :
    findIn (l1 ++ t :: l2) h = findIn (l1 ++ l2) h := by
  simp only [findIn_append, findIn_cons, hn]

theorem findIn_remove (l1 l2 : List Table) {t : Table} {h : Nat} {s : Slot} (hp : (l1 ++ t :: l2).Pairwise Disj)
    (hs : t.find h = some s) : findIn (l1 ++ t :: l2) h = some s ∧ findIn (l1 ++ l2) h = none := by
  rw [List.pairwise_append, List.pairwise_cons] at hp
  have hts : t.find h ≠ none := by rw [hs]; exact Option.some_ne_none s
  have h1 : findIn l1 h = none :=
    (findIn_eq_none_iff l1 h).mpr fun x hx => (hp.2.2 x hx t List.mem_cons_self h).resolve_right hts
  have h2 : findIn l2 h = none := (findIn_eq_none_iff l2 h).mpr fun x hx => (hp.2.1.1 x hx h).resolve_left hts
  simp only [findIn_append, findIn_cons, h1, h2, hs, and_self]

theorem findIn_of_mem {ts : List Table} {t : Table} {h : Nat} {s : Slot} (hp : ts.Pairwise Disj)
    (ht : t ∈ ts) (hf : t.find h = some s) : findIn ts h = some s := by
  obtain ⟨l1, l2, rfl⟩ := List.append_of_mem ht
  exact (findIn_remove l1 l2 hp hf).1

theorem pickLast_spec (p : Table → Bool) (ts : List Table) :
    match pickLast p ts with
    | some (r, rest) => ∃ a b, ts = a ++ r :: b ∧ rest = a ++ b ∧ p r = true ∧ ∀ x ∈ b, p x = false
    | none => ∀ x ∈ ts, p x = false := by
  induction ts with
  | nil => exact fun _ hx => nomatch hx
  | cons t ts ih =>
    rw [pickLast]
    revert ih
    cases pickLast p ts with
    | some q =>
      obtain ⟨r, rest⟩ := q
      rintro ⟨a, b, rfl, rfl, h⟩
      exact ⟨t :: a, b, rfl, rfl, h⟩
    | none =>
      intro ih
      by_cases ht : p t = true
      · rw [if_pos ht]; exact ⟨[], ts, rfl, rfl, ht, ih⟩
      · rw [if_neg ht]; exact List.forall_mem_cons.mpr ⟨Bool.eq_false_iff.mpr ht, ih⟩

theorem pickLast_some {p : Table → Bool} {ts rest : List Table} {r : Table} (hp : pickLast p ts = some (r, rest)) :
    ∃ a b, ts = a ++ r :: b ∧ rest = a ++ b ∧ p r = true ∧ ∀ x ∈ b, p x = false := by
  have := pickLast_spec p ts
  rwa [hp] at this

theorem pickLast_mem {p : Table → Bool} {ts rest : List Table} {r : Table}
    (hp : pickLast p ts = some (r, rest)) : r ∈ ts ∧ p r = true := by
  obtain ⟨a, b, rfl, -, hr, -⟩ := pickLast_some hp
  exact ⟨by simp, hr⟩

theorem pickLast_eq_none_iff {p : Table → Bool} {ts : List Table} : pickLast p ts = none ↔ ∀ x ∈ ts, p x = false := by
  refine ⟨fun hp => ?_, fun h => ?_⟩
  · have := pickLast_spec p ts
    rwa [hp] at this
  · cases hp : pickLast p ts with
    | none => rfl
    | some q => exact absurd (pickLast_mem hp).2 (by rw [h _ (pickLast_mem hp).1]; exact Bool.false_ne_true)

theorem lookup_eq (k : KV) (h : Nat) : k.lookup h = (findIn (k.head.toList ++ k.old) h).map (·.r) := rfl

theorem lookup_fork (size : Nat) (idle : Int) (h : Nat) : (KV.fork size idle).lookup h = none := by
  simp [lookup, newestFirst, fork, findIn_cons, find_new, findIn]

/-- the map a store implements, without lastAccess -/
def absV (k : KV) (h : Nat) : Option Core := (k.lookup h).map Rec.core

section
-- `k'` is `k` after a step that leaves `v` under `h` and touches no other key
variable {k k' : KV} {h : Nat} {v : Option Rec} (hl : ∀ x, k'.lookup x = if x = h then v else k.lookup x)
include hl

theorem absV_set (x : Nat) : k'.absV x = if x = h then v.map Rec.core else k.absV x :=
  (congrArg (Option.map Rec.core) (hl x)).trans (apply_ite (Option.map Rec.core) _ _ _)

/-- a write that keeps the core of the record under `h` keeps the map: Get's new lastAccess, Compaction's
    re-insertion of the visible version -/
theorem absV_of_same_core (hv : v.map Rec.core = k.absV h) (x : Nat) : k'.absV x = k.absV x :=
  (absV_set hl x).trans (ite_eq_right_iff.mpr fun e => e ▸ hv)

end

theorem find_setState (t : Table) (s : TState) (h : Nat) : ({ t with state := s } : Table).find h = t.find h := rfl
theorem find_setCfState (t : Table) (c : Nat) (s : TState) (h : Nat) :
    ({ t with cf := c, state := s } : Table).find h = t.find h := rfl

/-- `old1` of makeTable: the head, demoted to read-only, in front of the older tables. -/
def demoted (k : KV) : List Table :=
  match k.head with
  | none => k.old
  | some h => { h with state := .ro } :: k.old

theorem mem_demoted {k : KV} {t : Table} (ht : t ∈ k.demoted) :
    t ∈ k.old ∨ ∃ hd, k.head = some hd ∧ t = { hd with state := .ro } := by
  unfold demoted at ht
  cases hh : k.head with
  | none => rw [hh] at ht; exact Or.inl ht
  | some hd => rw [hh] at ht; exact (List.mem_cons.mp ht).symm.imp_right fun e => ⟨hd, rfl, e⟩

theorem mem_demoted_of_old {k : KV} {t : Table} (ht : t ∈ k.old) : t ∈ k.demoted := by
  unfold demoted; cases k.head <;> simp [ht]

theorem tables_perm (k : KV) : k.tables.Perm k.newestFirst :=
  List.perm_append_comm.trans ((List.reverse_perm k.old).append_left _)

theorem length_demoted (k : KV) : k.demoted.length = k.newestFirst.length := by
  unfold demoted newestFirst; cases k.head <;> rfl

theorem findIn_demoted (k : KV) (h : Nat) : findIn k.demoted h = findIn k.newestFirst h := by
  unfold demoted newestFirst; cases k.head <;> rfl

theorem makeTable_eq (k : KV) : k.makeTable =
    match pickLast isRecycled k.demoted with
    | some (t, rest) =>
      { k with old := rest, head := some { t with cf := k.nextCf, state := .rw }, nextCf := k.nextCf + 1 }
    | none =>
      { k with old := k.demoted, head := some (Table.new k.tableSize k.nextCf), nextCf := k.nextCf + 1 } := by
  unfold makeTable demoted
  cases k.head <;> rfl

theorem recEmpty_demoted (k : KV) (hre : RecEmpty k.old) : RecEmpty k.demoted := by
  intro t ht hr
  rcases mem_demoted ht with h | ⟨hd, _, rfl⟩
  · exact hre t h hr
  · cases hr

theorem makeTable_findIn (k : KV) (hre : RecEmpty k.old) (h : Nat) :
    findIn k.makeTable.newestFirst h = findIn k.newestFirst h := by
  rw [makeTable_eq]
  cases hp : pickLast isRecycled k.demoted with
  | none =>
    simp only [newestFirst, Option.toList, List.cons_append, List.nil_append, findIn_cons, find_new]
    exact findIn_demoted k h
  | some q =>
    obtain ⟨t, rest⟩ := q
    obtain ⟨a, b, hab, rfl, hrec, -⟩ := pickLast_some hp
    have he : t.slots = [] := recEmpty_demoted k hre t (by rw [hab]; simp) hrec
    simp only [newestFirst, Option.toList, List.cons_append, List.nil_append, findIn_cons, find_setCfState,
      find_eq_none_of_slots_nil he]
    rw [← findIn_skip a b (find_eq_none_of_slots_nil he), ← hab]
    exact findIn_demoted k h

theorem makeTable_lookup (k : KV) (hre : RecEmpty k.old) (h : Nat) : k.makeTable.lookup h = k.lookup h := by
  simp only [lookup, makeTable_findIn k hre h]

theorem makeTable_head_isSome (k : KV) : k.makeTable.head.isSome = true := by
  rw [makeTable_eq]
  cases pickLast isRecycled k.demoted with
  | none => rfl
  | some q => rfl

end KV
end Olric
