/- Sums of naturals over a list, compared term by term: the arithmetic the compaction measure, the storage
   bound and the eviction bound share. -/
namespace Olric
variable {α : Type}

theorem sum_map_le (f : α → Nat) {g : α → Nat} {l : List α} (hle : ∀ x ∈ l, g x ≤ f x) :
    (l.map g).sum ≤ (l.map f).sum := by
  induction l with
  | nil => exact Nat.le_refl _
  | cons b l ih =>
    obtain ⟨hb, hl⟩ := List.forall_mem_cons.mp hle
    exact Nat.add_le_add hb (ih hl)

theorem sum_map_lt (f : α → Nat) {g : α → Nat} {l : List α} (hle : ∀ x ∈ l, g x ≤ f x)
    (hlt : ∃ x ∈ l, g x < f x) : (l.map g).sum < (l.map f).sum := by
  obtain ⟨x, hx, hxl⟩ := hlt
  induction l with
  | nil => cases hx
  | cons a l ih =>
    obtain ⟨ha, hl⟩ := List.forall_mem_cons.mp hle
    rcases List.mem_cons.mp hx with rfl | hx
    · exact Nat.add_lt_add_of_lt_of_le hxl (sum_map_le f hl)
    · exact Nat.add_lt_add_of_le_of_lt ha (ih hl hx)

theorem sum_map_map_le (f : α → Nat) {g : α → α} {l : List α} (hle : ∀ x ∈ l, f (g x) ≤ f x) :
    ((l.map g).map f).sum ≤ (l.map f).sum := by
  rw [List.map_map]; exact sum_map_le f hle

theorem sum_map_map_lt (f : α → Nat) {g : α → α} {l : List α} (hle : ∀ x ∈ l, f (g x) ≤ f x)
    (hlt : ∃ x ∈ l, f (g x) < f x) : ((l.map g).map f).sum < (l.map f).sum := by
  rw [List.map_map]; exact sum_map_lt f hle hlt

theorem sum_map_sublist (f : α → Nat) {l' l : List α} (h : l'.Sublist l) :
    (l'.map f).sum ≤ (l.map f).sum := by
  induction h with
  | slnil => exact Nat.le_refl _
  | cons a _ ih => exact Nat.le_trans ih (Nat.le_add_left _ _)
  | cons_cons a _ ih => exact Nat.add_le_add_left ih _

theorem length_filter_eq_sum (l : List α) (p : α → Bool) :
    (l.filter p).length = (l.map fun x => if p x then 1 else 0).sum := by
  rw [← List.countP_eq_length_filter]
  induction l with
  | nil => rfl
  | cons a l ih => rw [List.countP_cons, ih, List.map_cons, List.sum_cons, Nat.add_comm]

theorem length_filter_le_sum (p : α → Bool) (f : α → Nat) (l : List α)
    (h : ∀ x ∈ l, p x = true → 1 ≤ f x) : (l.filter p).length ≤ (l.map f).sum := by
  rw [length_filter_eq_sum]
  refine sum_map_le f fun x hx => ?_
  split
  · exact h x hx ‹_›
  · exact Nat.zero_le _

end Olric
