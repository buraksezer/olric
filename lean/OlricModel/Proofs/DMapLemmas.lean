/-
  What the DMap operations compute, as the equations the property files argue from in place of unfolding `get`,
  `put`, `expire`, `replicate`, `del` or `versions`: every write as an equation for the copies it leaves, Put and Expire as a guard in front of
  `replicate`, a read as `answer` (a function of the gathered versions alone) plus the read-repair loop, the
  hand-over merge as a fold of `lwwC` per key.
-/
import OlricModel.DMap.Model
namespace Olric.DMap

/-- what `versions` gathers: member, fragment kind, the live copy or "not found" -/
abbrev Version := Nat × Kind × Option Copy
/-- what `sortV` sorts: the versions that carry a copy -/
abbrev Ver := Nat × Kind × Copy

variable (cfg : Cfg) (r : Route) (reach : Reach) (c : Cluster) (dm : Bytes) (k : Key) (now : Int) (e : Copy)
  (j : Nat) (kind' : Kind) (dm' : Bytes) (k' : Key)

theorem copy_setCopy (i : Nat) (kind : Kind) (v : Option Copy) :
    (c.setCopy i kind dm k v).copy j kind' dm' k' =
      if j = i ∧ kind' = kind ∧ dm' = dm ∧ k' = k then v else c.copy j kind' dm' k' := by
  unfold Cluster.setCopy Cluster.copy
  by_cases hj : j = i
  · subst hj
    cases kind <;> cases kind' <;> simp [updFrags]
  · simp [hj]

/-- the kind may depend on the member: read-repair writes the owner's primary and everybody else's backup fragment -/
theorem copy_foldl_setCopy (ms : List Nat) (kd : Nat → Kind) (v : Option Copy) :
    (ms.foldl (fun c b => c.setCopy b (kd b) dm k v) c).copy j kind' dm' k' =
      if j ∈ ms ∧ kind' = kd j ∧ dm' = dm ∧ k' = k then v else c.copy j kind' dm' k' := by
  induction ms generalizing c with
  | nil => simp
  | cons m ms ih =>
    rw [List.foldl_cons, ih, copy_setCopy]
    by_cases h2 : j = m
    · subst h2
      by_cases hs : kind' = kd j ∧ dm' = dm ∧ k' = k <;> simp [hs]
    · simp [h2]

theorem replicate_fst :
    (replicate cfg r reach c dm k e).1 =
      ((if cfg.R > 1 then r.baks.filter reach else []).foldl (fun c b => c.setCopy b .bak dm k (some e)) c).setCopy
        r.owner .prim dm k (some e) := by
  unfold replicate; exact (apply_ite Prod.fst ..).trans (ite_self _)

theorem replicate_snd :
    (replicate cfg r reach c dm k e).2 =
      if cfg.R > 1 ∧ (r.baks.filter reach).length + 1 < cfg.W then .writeQuorum else .ok := by
  unfold replicate
  by_cases hR : cfg.R > 1
  · simp only [hR, if_true, true_and, ge_iff_le, ← Nat.not_lt, ite_not]
  · simp only [hR, if_false, false_and]

theorem copy_replicate :
    (replicate cfg r reach c dm k e).1.copy j kind' dm' k' =
      if ((j = r.owner ∧ kind' = .prim) ∨ (cfg.R > 1 ∧ j ∈ r.baks ∧ reach j = true ∧ kind' = .bak)) ∧ dm' = dm ∧ k' = k
      then some e else c.copy j kind' dm' k' := by
  rw [replicate_fst, copy_setCopy, copy_foldl_setCopy]
  -- the kind of copy decides which of the two writes can have reached the slot
  cases kind' <;> simp [List.mem_filter]

theorem copy_del :
    (del cfg r c dm k).copy j kind' dm' k' =
      if ((j = r.owner ∧ kind' = .prim) ∨ (j ∈ r.prev ∧ kind' = .prim) ∨ (cfg.R > 1 ∧ j ∈ r.baks ∧ kind' = .bak)) ∧
          dm' = dm ∧ k' = k
      then none else c.copy j kind' dm' k' := by
  unfold del
  rw [copy_setCopy, copy_foldl_setCopy, copy_foldl_setCopy]
  by_cases hkey : dm' = dm ∧ k' = k
  · obtain ⟨rfl, rfl⟩ := hkey
    cases kind' with
    | prim => by_cases ho : j = r.owner <;> simp [ho]
    | bak => simp
  · rw [if_neg fun h => hkey h.2.2, if_neg fun h => hkey h.2.2, if_neg fun h => hkey h.2.2, if_neg fun h => hkey h.2]

/-- the owner's primary fragment after a write, key by key (`fragLen` and `EqualSize` read it this way) -/
theorem copy_owner_replicate (x : Key) :
    (replicate cfg r reach c dm k e).1.copy r.owner .prim dm x = if x = k then some e else c.copy r.owner .prim dm x := by
  simp [copy_replicate]

variable {cfg r reach c dm k e} in
theorem copy_bak_replicate {b : Nat} (hR : cfg.R > 1) (hb : b ∈ r.baks) (hr : reach b = true) :
    (replicate cfg r reach c dm k e).1.copy b .bak dm k = some e := by
  rw [copy_replicate, if_pos ⟨.inr ⟨hR, hb, hr, rfl⟩, rfl, rfl⟩]

theorem copy_owner_del (x : Key) :
    (del cfg r c dm k).copy r.owner .prim dm x = if x = k then none else c.copy r.owner .prim dm x := by
  simp [copy_del]

variable {cfg r c dm k} in
theorem copy_bak_del {b : Nat} (hR : cfg.R > 1) (hb : b ∈ r.baks) : (del cfg r c dm k).copy b .bak dm k = none := by
  rw [copy_del, if_pos ⟨.inr (.inr ⟨hR, hb, rfl⟩), rfl, rfl⟩]

theorem expired_eq_true {ttl now : Int} : expired ttl now = true ↔ ttl ≠ 0 ∧ ttl ≤ Int.tdiv now 1000000 := by
  simp [expired]

theorem expired_eq_false {ttl now : Int} : expired ttl now = false ↔ ttl = 0 ∨ Int.tdiv now 1000000 < ttl := by
  simp only [expired, Bool.and_eq_false_iff, bne_eq_false_iff_eq, decide_eq_false_iff_not, Int.not_le, ge_iff_le]

theorem expired_mono {d now now' : Int} (hle : now ≤ now') (h : expired d now = true) : expired d now' = true := by
  obtain ⟨h0, hd⟩ := expired_eq_true.mp h
  exact expired_eq_true.mpr ⟨h0, Int.le_trans hd (Int.tdiv_le_tdiv (by decide) hle)⟩

theorem live_some (x : Copy) (now : Int) : live (some x) now = if expired x.ttl now then none else some x := rfl

theorem live_eq_some {o : Option Copy} {now : Int} {x : Copy} :
    live o now = some x ↔ o = some x ∧ expired x.ttl now = false := by
  cases o with
  | none => exact ⟨nofun, fun h => nomatch h.1⟩
  | some y =>
    rw [live_some, Option.ite_none_left_eq_some, Option.some.injEq, Bool.not_eq_true, and_comm]
    exact and_congr_right fun e => by rw [e]

theorem prepareTTL_none_zero (now : Int) : prepareTTL .none 0 now = 0 := rfl

theorem prepareTTL_none_of_ne {timeout : Int} (h : timeout ≠ 0) (now : Int) :
    prepareTTL .none timeout now = Int.tdiv (timeout + now) 1000000 :=
  if_pos (bne_iff_ne.mpr h)

theorem put_eq (v : Bytes) (pc : PutCfg) (now : Int) :
    put cfg r reach c dm k v pc now =
      if pc.nx = true ∧ live (c.copy r.owner .prim dm k) now ≠ none then (c, .keyFound)
      else if pc.xx = true ∧ live (c.copy r.owner .prim dm k) now = none then (c, .notFound)
      else replicate cfg r reach c dm k ⟨v, prepareTTL pc.ttl cfg.dmTTL now, now⟩ := by
  simp only [put, Bool.and_eq_true, Option.isSome_iff_ne_none, Option.isNone_iff_eq_none]

theorem put_cases (v : Bytes) (pc : PutCfg) (now : Int) :
    put cfg r reach c dm k v pc now = (c, .keyFound) ∨ put cfg r reach c dm k v pc now = (c, .notFound) ∨
    put cfg r reach c dm k v pc now = replicate cfg r reach c dm k ⟨v, prepareTTL pc.ttl cfg.dmTTL now, now⟩ := by
  rw [put_eq]
  split
  · exact .inl rfl
  · split
    · exact .inr (.inl rfl)
    · exact .inr (.inr rfl)

section
variable {cfg r reach c dm k now} {timeout : Int}

theorem expire_of_gone (h : live (c.copy r.owner .prim dm k) now = none) :
    expire cfg r reach c dm k timeout now = (c, .notFound) := by
  unfold expire; rw [h]

theorem expire_of_live {cur : Copy} (h : live (c.copy r.owner .prim dm k) now = some cur) :
    expire cfg r reach c dm k timeout now = replicate cfg r reach c dm k
      ⟨cur.val, prepareTTL .none (if timeout != 0 then timeout else cfg.dmTTL) now, now⟩ := by
  unfold expire; rw [h]

end

theorem insertV_perm (x : Ver) (l : List Ver) : (insertV x l).Perm (x :: l) := by
  induction l with
  | nil => exact .refl _
  | cons y ys ih =>
    unfold insertV; split
    · exact .refl _
    · exact (ih.cons y).trans (.swap x y ys)

theorem sortV_perm (l : List Ver) : (sortV l).Perm l := by
  suffices ∀ acc, (l.foldl (fun acc x => insertV x acc) acc).Perm (l ++ acc) by simpa [sortV] using this []
  induction l with
  | nil => exact fun _ => .refl _
  | cons a l ih => exact fun acc => (ih _).trans (((insertV_perm a acc).append_left l).trans List.perm_middle)

theorem mem_sortV (y : Ver) (l : List Ver) : y ∈ sortV l ↔ y ∈ l := (sortV_perm l).mem_iff

theorem sortV_length (l : List Ver) : (sortV l).length = l.length := (sortV_perm l).length_eq

theorem sortV_eq_nil {l : List Ver} : sortV l = [] ↔ l = [] := by
  rw [← List.length_eq_zero_iff, sortV_length, List.length_eq_zero_iff]

theorem insertV_desc (x : Ver) (l : List Ver) (h : l.Pairwise (fun a b => a.2.2.ts ≥ b.2.2.ts)) :
    (insertV x l).Pairwise (fun a b => a.2.2.ts ≥ b.2.2.ts) := by
  induction l with
  | nil => exact List.pairwise_singleton _ _
  | cons y ys ih =>
    unfold insertV
    have ⟨hy, hys⟩ := List.pairwise_cons.mp h
    split
    · next hge => exact .cons (List.forall_mem_cons.mpr ⟨hge, fun b hb => Int.le_trans (hy b hb) hge⟩) h
    · next hlt =>
      refine .cons (fun b hb => ?_) (ih hys)
      rcases List.mem_cons.mp ((insertV_perm x ys).mem_iff.mp hb) with rfl | hb
      · exact Int.le_of_lt (Int.not_le.mp hlt)
      · exact hy b hb

theorem sortV_desc (l : List Ver) : (sortV l).Pairwise (fun a b => a.2.2.ts ≥ b.2.2.ts) :=
  List.foldlRecOn l _ .nil fun acc h x _ => insertV_desc x acc h

theorem sortV_head {l : List Ver} {w : Ver} {ws : List Ver} (hs : sortV l = w :: ws) :
    w ∈ l ∧ ∀ v ∈ l, v.2.2.ts ≤ w.2.2.ts := by
  have hd := sortV_desc l
  rw [hs] at hd
  refine ⟨(mem_sortV w l).mp (hs ▸ List.mem_cons_self), fun v hv => ?_⟩
  rcases List.mem_cons.mp (hs ▸ (mem_sortV v l).mpr hv) with rfl | hm
  · exact Int.le_refl _
  · exact (List.pairwise_cons.mp hd).1 v hm

theorem Route.prims_eq {r : Route} (h : r.prims ≠ []) : r.prims = r.prev ++ [r.owner] := by
  unfold Route.prev Route.owner
  rw [List.getLastD_eq_getLast?, List.getLast?_eq_some_getLast h]
  exact (List.dropLast_concat_getLast h).symm

variable {r reach c dm k now} in
theorem owner_mem_versions :
    (r.owner, Kind.prim, live (c.copy r.owner .prim dm k) now) ∈ versions r reach c dm k now :=
  List.mem_cons_self

theorem versions_length_ge : (r.baks.filter reach).length + 1 ≤ (versions r reach c dm k now).length := by
  simp only [versions, List.length_cons, List.length_append, List.length_map]
  exact Nat.succ_le_succ (Nat.le_add_left _ _)

section
variable {r reach c dm k now} {v : Version} {m : Nat} {x : Copy}

theorem mem_versions (hv : v ∈ versions r reach c dm k now) :
    v.2.2 = live (c.copy v.1 v.2.1 dm k) now ∧
    ((v.1 = r.owner ∧ v.2.1 = .prim) ∨ (v.1 ∈ r.prev ∧ v.2.1 = .prim) ∨
      (v.1 ∈ r.baks ∧ reach v.1 = true ∧ v.2.1 = .bak)) := by
  simp only [versions, List.mem_cons, List.mem_append, List.mem_filterMap, List.mem_map, List.mem_filter,
    List.mem_reverse, Option.map_eq_some_iff] at hv
  rcases hv with rfl | ⟨m, hm, x, hl, rfl⟩ | ⟨m, hm, rfl⟩
  · exact ⟨rfl, .inl ⟨rfl, rfl⟩⟩
  · exact ⟨hl.symm, .inr (.inl ⟨hm.1, rfl⟩)⟩
  · exact ⟨rfl, .inr (.inr ⟨hm.1, hm.2, rfl⟩)⟩

theorem prev_mem_versions (hm : m ∈ r.prev) (hr : reach m = true) (hx : live (c.copy m .prim dm k) now = some x) :
    (m, Kind.prim, some x) ∈ versions r reach c dm k now := by
  refine List.mem_cons_of_mem _ (List.mem_append_left _ (List.mem_filterMap.mpr ⟨m, ?_, by rw [hx]; rfl⟩))
  exact List.mem_filter.mpr ⟨List.mem_reverse.mpr hm, hr⟩

theorem bak_mem_versions (hm : m ∈ r.baks) (hr : reach m = true) :
    (m, Kind.bak, live (c.copy m .bak dm k) now) ∈ versions r reach c dm k now :=
  List.mem_cons_of_mem _ (List.mem_append_right _ (List.mem_map.mpr ⟨m, List.mem_filter.mpr ⟨hm, hr⟩, rfl⟩))

end

/-- the copies among the gathered versions ("not found" answers dropped) -/
def copies (vs : List Version) : List Ver :=
  vs.filterMap (fun v => v.2.2.map (fun x => (v.1, v.2.1, x)))

section
variable {cfg now} {vs : List Version} {x : Copy}

theorem mem_copies {m : Nat} {kind : Kind} : (m, kind, x) ∈ copies vs ↔ (m, kind, some x) ∈ vs := by
  simp only [copies, List.mem_filterMap]
  constructor
  · rintro ⟨⟨m', kind', o⟩, hv, h⟩
    cases o with
    | none => cases h
    | some y => cases h; exact hv
  · exact fun h => ⟨_, h, rfl⟩

theorem mem_copies_of {v : Version} (hv : v ∈ vs) (hx : v.2.2 = some x) : (v.1, v.2.1, x) ∈ copies vs :=
  mem_copies.mpr (hx ▸ hv)

theorem copies_eq_nil : copies vs = [] ↔ ∀ v ∈ vs, v.2.2 = none := by
  simp only [copies, List.filterMap_eq_nil_iff, Option.map_eq_none_iff]

theorem copies_length_le (vs : List Version) : (copies vs).length ≤ vs.length :=
  List.length_filterMap_le _ _

/-- what a read answers from the versions it gathered -/
def answer (cfg : Cfg) (vs : List Version) (now : Int) : Res :=
  if vs.length < cfg.RQ then .readQuorum else
  match sortV (copies vs) with
  | [] => .notFound
  | w :: _ =>
    if (copies vs).length < cfg.RQ then .readQuorum
    else if expired w.2.2.ttl now then .notFound
    else .val w.2.2

theorem answer_of_lt (h : vs.length < cfg.RQ) : answer cfg vs now = .readQuorum := by
  unfold answer; rw [if_pos h]

theorem answer_of_nil (h : cfg.RQ ≤ vs.length) (h0 : copies vs = []) : answer cfg vs now = .notFound := by
  unfold answer; rw [if_neg (Nat.not_lt.mpr h), h0]; rfl

theorem answer_of_cons {w : Ver} {ws : List Ver} (hs : sortV (copies vs) = w :: ws) :
    answer cfg vs now = if (copies vs).length < cfg.RQ then .readQuorum
      else if expired w.2.2.ttl now then .notFound else .val w.2.2 := by
  unfold answer; rw [hs]
  by_cases h : vs.length < cfg.RQ
  · rw [if_pos h, if_pos (Nat.lt_of_le_of_lt (copies_length_le vs) h)]
  · rw [if_neg h]

theorem answer_of_few (h0 : copies vs ≠ []) (h1 : (copies vs).length < cfg.RQ) : answer cfg vs now = .readQuorum := by
  cases hs : sortV (copies vs) with
  | nil => exact absurd (sortV_eq_nil.mp hs) h0
  | cons w ws => rw [answer_of_cons hs, if_pos h1]

theorem answer_val (h : answer cfg vs now = .val x) :
    ∃ w ws, sortV (copies vs) = w :: ws ∧ w.2.2 = x ∧ cfg.RQ ≤ (copies vs).length ∧ expired x.ttl now = false := by
  cases hs : sortV (copies vs) with
  | nil =>
    by_cases h1 : vs.length < cfg.RQ
    · rw [answer_of_lt h1] at h; cases h
    · rw [answer_of_nil (Nat.le_of_not_lt h1) (sortV_eq_nil.mp hs)] at h; cases h
  | cons w ws =>
    rw [answer_of_cons hs] at h
    by_cases h1 : (copies vs).length < cfg.RQ
    · rw [if_pos h1] at h; cases h
    · rw [if_neg h1] at h
      cases he : expired w.2.2.ttl now with
      | true => rw [he, if_pos rfl] at h; cases h
      | false =>
        rw [he] at h
        cases h
        exact ⟨w, ws, rfl, rfl, Nat.le_of_not_lt h1, he⟩

theorem answer_all_same (hall : ∀ v ∈ vs, v.2.2 = none ∨ v.2.2 = some x) (hone : ∃ v ∈ vs, v.2.2 = some x)
    (hq : cfg.RQ ≤ (copies vs).length) (hlive : expired x.ttl now = false) : answer cfg vs now = .val x := by
  cases hs : sortV (copies vs) with
  | nil =>
    obtain ⟨v, hv, hx⟩ := hone
    have := copies_eq_nil.mp (sortV_eq_nil.mp hs) v hv
    rw [hx] at this; cases this
  | cons w ws =>
    have hw : w.2.2 = x := by
      rcases hall _ (mem_copies.mp (sortV_head hs).1) with h | h <;> cases h
      rfl
    rw [answer_of_cons hs, if_neg (Nat.not_lt.mpr hq), hw, hlive]; rfl

end

/-- one turn of the read-repair loop of `get` for the winner `w` -/
def repairStep (r : Route) (dm : Bytes) (k : Key) (w : Copy) (c : Cluster) (v : Version) : Cluster :=
  if v.2.1 = .prim ∧ v.1 ≠ r.owner then c else
  match v.2.2 with
  | some x => if x.ts = w.ts then c else c.setCopy v.1 (if v.1 = r.owner then .prim else .bak) dm k (some w)
  | none => c.setCopy v.1 (if v.1 = r.owner then .prim else .bak) dm k (some w)

/-- the cluster a read leaves: untouched unless it answers a value with read-repair on -/
def repaired (cfg : Cfg) (r : Route) (dm : Bytes) (k : Key) (vs : List Version) (c : Cluster) : Res → Cluster
  | .val w => if cfg.readRepair then vs.foldl (repairStep r dm k w) c else c
  | _ => c

/-- the one place where `get` is taken apart: both sides branch alike, along the branches of `get` -/
theorem get_eq :
    get cfg r reach c dm k now =
      (repaired cfg r dm k (versions r reach c dm k now) c (answer cfg (versions r reach c dm k now) now),
       answer cfg (versions r reach c dm k now) now) := by
  unfold get answer copies
  generalize versions r reach c dm k now = vs
  by_cases h1 : vs.length < cfg.RQ
  · rw [if_pos h1, if_pos h1]; rfl
  · rw [if_neg h1, if_neg h1]
    dsimp only
    cases sortV (vs.filterMap fun v => v.2.2.map fun x => (v.1, v.2.1, x)) with
    | nil => rfl
    | cons w ws =>
      dsimp only
      by_cases h2 : (vs.filterMap fun v => v.2.2.map fun x => (v.1, v.2.1, x)).length < cfg.RQ
      · rw [if_pos h2, if_pos h2]; rfl
      · rw [if_neg h2, if_neg h2]
        cases expired w.2.2.ttl now <;> rfl

theorem get_snd : (get cfg r reach c dm k now).2 = answer cfg (versions r reach c dm k now) now := by rw [get_eq]

variable {cfg r reach c dm k now} in
theorem get_fst_noRepair (h : cfg.readRepair = false) : (get cfg r reach c dm k now).1 = c := by
  rw [get_eq]; cases answer cfg (versions r reach c dm k now) now <;> simp [repaired, h]

theorem get_fst_cases :
    (get cfg r reach c dm k now).1 = c ∨
    ∃ w, (get cfg r reach c dm k now).1 = (versions r reach c dm k now).foldl (repairStep r dm k w) c := by
  rw [get_eq]
  cases answer cfg (versions r reach c dm k now) now with
  | val w =>
    simp only [repaired]
    cases cfg.readRepair
    · exact .inl rfl
    · exact .inr ⟨w, rfl⟩
  | _ => exact .inl rfl

variable {cfg r reach c dm k now} in
theorem get_fst_of_val {w : Copy} (hrr : cfg.readRepair = true) (h : (get cfg r reach c dm k now).2 = .val w) :
    (get cfg r reach c dm k now).1 = (versions r reach c dm k now).foldl (repairStep r dm k w) c := by
  rw [get_snd] at h
  rw [get_eq, h]
  exact if_pos hrr

/-- the versions read-repair rewrites: not a previous owner's, and not carrying the winner's timestamp -/
def Stale (r : Route) (w : Copy) (v : Version) : Prop :=
  ¬ (v.2.1 = .prim ∧ v.1 ≠ r.owner) ∧ v.2.2.map (·.ts) ≠ some w.ts

variable (w : Copy) (vs : List Version)

open Classical in
theorem repairStep_eq (v : Version) :
    repairStep r dm k w c v =
      if Stale r w v then c.setCopy v.1 (if v.1 = r.owner then .prim else .bak) dm k (some w) else c := by
  unfold repairStep Stale
  by_cases h : v.2.1 = .prim ∧ v.1 ≠ r.owner
  · rw [if_pos h, if_neg fun hs => hs.1 h]
  · rw [if_neg h]
    cases v.2.2 <;> simp [h]

open Classical in
theorem foldl_repairStep :
    vs.foldl (repairStep r dm k w) c =
      ((vs.filter (Stale r w ·)).map (·.1)).foldl
        (fun c m => c.setCopy m (if m = r.owner then .prim else .bak) dm k (some w)) c := by
  rw [List.foldl_map, List.foldl_filter]
  congr; funext c v
  simp only [repairStep_eq, decide_eq_true_eq]

open Classical in
theorem copy_repair :
    (vs.foldl (repairStep r dm k w) c).copy j kind' dm' k' =
      if (∃ v ∈ vs, Stale r w v ∧ v.1 = j) ∧ kind' = (if j = r.owner then .prim else .bak) ∧ dm' = dm ∧ k' = k
      then some w else c.copy j kind' dm' k' := by
  rw [foldl_repairStep, copy_foldl_setCopy]
  simp only [List.mem_map, List.mem_filter, decide_eq_true_eq, and_assoc]

variable {r c dm k w vs} in
theorem foldl_repairStep_id (h : ∀ v ∈ vs, ¬ Stale r w v) : vs.foldl (repairStep r dm k w) c = c := by
  rw [foldl_repairStep, List.filter_eq_nil_iff.mpr fun v hv => by simpa using h v hv]; rfl

theorem lwwC_ts (cur : Option Copy) (x : Copy) : x.ts ≤ (lwwC cur x).ts ∧ ∀ y, cur = some y → y.ts ≤ (lwwC cur x).ts := by
  cases cur with
  | none => exact ⟨Int.le_refl _, nofun⟩
  | some y =>
    simp only [lwwC, Option.some.injEq, forall_eq']
    split
    · next h => exact ⟨Int.le_refl _, h⟩
    · next h => exact ⟨Int.le_of_lt (Int.not_le.mp h), Int.le_refl _⟩

theorem lwwC_mem (cur : Option Copy) (x : Copy) : lwwC cur x = x ∨ cur = some (lwwC cur x) := by
  cases cur with
  | none => exact .inl rfl
  | some y =>
    simp only [lwwC]
    split
    · exact .inl rfl
    · exact .inr rfl

/-- one key's record after the versions `incs` were merged onto `cur` in arrival order: what `mergeEntries`
    leaves in a fragment (`copy_mergeEntries`) -/
def _root_.Olric.C06.mergeAll (cur : Option Copy) (incs : List Copy) : Option Copy :=
  incs.foldl (fun acc x => some (lwwC acc x)) cur

theorem mergeAll_max {incs : List Copy} {cur : Option Copy} {r : Copy} (h : C06.mergeAll cur incs = some r) :
    (r ∈ incs ∨ cur = some r) ∧ ∀ x, (x ∈ incs ∨ cur = some x) → x.ts ≤ r.ts := by
  induction incs generalizing cur with
  | nil =>
    obtain rfl : cur = some r := h
    exact ⟨.inr rfl, fun x hx => by rcases hx with hx | hx <;> cases hx; exact Int.le_refl _⟩
  | cons a l ih =>
    obtain ⟨hm, hx⟩ := ih (cur := some (lwwC cur a)) h
    obtain ⟨ha, hc⟩ := lwwC_ts cur a
    have hr := hx _ (.inr rfl)
    constructor
    · rcases hm with hm | hm
      · exact .inl (List.mem_cons_of_mem _ hm)
      · cases hm
        exact (lwwC_mem cur a).imp_left fun e => by rw [e]; exact List.mem_cons_self
    · rintro x (hx' | hx')
      · rcases List.mem_cons.mp hx' with rfl | hx'
        · exact Int.le_trans ha hr
        · exact hx _ (.inl hx')
      · exact Int.le_trans (hc x hx') hr

theorem copy_mergeEntries (incs : List (Key × Copy)) (m : Nat) (kind : Kind) :
    (mergeEntries c m kind dm incs).1.copy j kind' dm' k' =
      if j = m ∧ kind' = kind ∧ dm' = dm
      then C06.mergeAll (c.copy j kind' dm' k') ((incs.filter (fun e => e.1 = k')).map (·.2))
      else c.copy j kind' dm' k' := by
  induction incs generalizing c with
  | nil => exact (ite_self _).symm
  | cons e l ih =>
    rw [mergeEntries, ih, copy_setCopy]
    by_cases hs : j = m ∧ kind' = kind ∧ dm' = dm
    · obtain ⟨rfl, rfl, rfl⟩ := hs
      by_cases hk : k' = e.1
      · subst hk; simp [C06.mergeAll]
      · simp [hk, Ne.symm hk]
    · rw [if_neg hs, if_neg hs, if_neg fun h => hs ⟨h.1, h.2.1, h.2.2.1⟩]

end Olric.DMap
