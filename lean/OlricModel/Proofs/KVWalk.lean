/- kvstore.scanCommon iterated from cursor 0 over a store that does not change.  A cursor is
   `offset + tableSize * coefficient` (decoded by `/` and `%`: the order of `Nat.mod_add_div`); a table that is
   exhausted hands over to the next registered coefficient (`findCoefficient`), so the whole walk is the pages of
   one table after the other (`page_spec` of ScanLemmas), in ascending order of coefficient. -/
import OlricModel.Proofs.KVWF
import OlricModel.Proofs.ScanLemmas
namespace Olric
open Table
namespace KV

def CfDisj (a b : Table) : Prop := isRecycled a = false → isRecycled b = false → a.cf ≠ b.cf

theorem cfDisj_symm {a b : Table} (h : CfDisj a b) : CfDisj b a := fun hb ha e => h ha hb e.symm

def CfUnique (k : KV) : Prop := k.newestFirst.Pairwise CfDisj

/-- what lets a cursor decode uniquely.  `cfLt`: a new table's coefficient `nextCf` is above every registered
    one, so `makeTable` keeps `cfd`.  `offLe` bounds the write offset only; that a slot's offset is strictly
    below `tableSize` follows with `Layout` (a slot ends at or before `t.off`) and `WF.alloc`. -/
structure ScanInv (k : KV) : Prop where
  cfd : k.newestFirst.Pairwise CfDisj
  cfLt : ∀ t ∈ k.newestFirst, isRecycled t = false → t.cf < k.nextCf
  offLe : ∀ t ∈ k.newestFirst, t.off ≤ t.alloc

theorem mem_tables {k : KV} {t : Table} : t ∈ k.tables ↔ t ∈ k.newestFirst := (tables_perm k).mem_iff

theorem byCf_mem {k : KV} {cf : Nat} {t : Table} (hb : k.byCf cf = some t) :
    t ∈ k.newestFirst ∧ isRecycled t = false ∧ t.cf = cf := by
  unfold byCf at hb
  have h1 := List.mem_of_find?_eq_some hb
  have h2 := List.find?_some hb
  simp only [Bool.and_eq_true, Bool.not_eq_eq_eq_not, Bool.not_true, beq_iff_eq] at h2
  exact ⟨mem_tables.mp h1, h2.1, h2.2⟩

theorem byCf_none {k : KV} {cf : Nat} (hb : k.byCf cf = none) :
    ∀ t ∈ k.newestFirst, isRecycled t = false → t.cf ≠ cf := by
  intro t ht hl e
  unfold byCf at hb
  rw [List.find?_eq_none] at hb
  have := hb t (mem_tables.mpr ht)
  simp [hl, e] at this

theorem byCf_eq_some_iff {k : KV} (cu : CfUnique k) {cf : Nat} {x : Table} :
    k.byCf cf = some x ↔ x ∈ k.newestFirst ∧ isRecycled x = false ∧ x.cf = cf := by
  refine ⟨byCf_mem, fun ⟨hx, hl, hc⟩ => ?_⟩
  cases hb : k.byCf cf with
  | none => exact absurd hc (byCf_none hb x hx hl)
  | some t =>
    obtain ⟨htm, htl, htc⟩ := byCf_mem hb
    rcases eq_or_rel_of_pairwise cfDisj_symm cu hx htm with e | d
    · rw [e]
    · exact absurd (hc.trans htc.symm) (d hl htl)

theorem mem_cfs {k : KV} {n : Nat} : n ∈ k.cfs ↔ ∃ t ∈ k.newestFirst, isRecycled t = false ∧ t.cf = n := by
  simp only [cfs, List.mem_map, List.mem_filter, mem_tables, Bool.not_eq_eq_eq_not, Bool.not_true, and_assoc]

theorem minList_eq_min? (l : List Nat) : minList l = l.min? := by
  induction l with
  | nil => rfl
  | cons a l ih =>
    rw [minList, ih, List.min?_cons]
    cases l.min? with
    | none => rfl
    | some m => exact congrArg some Nat.min_def.symm

theorem findCoefficient_spec (k : KV) (c : Nat) :
    (k.findCoefficient c = none ↔ ∀ x ∈ k.cfs, x ≤ c) ∧
    ∀ n, k.findCoefficient c = some n → n ∈ k.cfs ∧ c < n ∧ ∀ x ∈ k.cfs, c < x → n ≤ x := by
  rw [findCoefficient, minList_eq_min?]
  constructor
  · rw [List.min?_eq_none_iff, List.filter_eq_nil_iff]
    exact forall₂_congr (fun x _ => by simp)
  · intro n hn
    obtain ⟨j1, j2⟩ := List.min?_eq_some_iff.mp hn
    obtain ⟨hm, hcn⟩ := List.mem_filter.mp j1
    exact ⟨hm, of_decide_eq_true hcn, fun x hx hcx => j2 x (List.mem_filter.mpr ⟨hx, decide_eq_true hcx⟩)⟩

def above (k : KV) (c : Nat) : Nat := (k.cfs.filter (· > c)).length

theorem above_lt {k : KV} {c n : Nat} (hn : k.findCoefficient c = some n) : k.above n < k.above c := by
  obtain ⟨hm, hlt, _⟩ := (findCoefficient_spec k c).2 n hn
  rw [above, above, ← filter_filter_of_imp (p := (· > c)) (fun _ h => decide_eq_true (Nat.lt_trans hlt (of_decide_eq_true h)))]
  exact List.length_filter_lt_length_iff_exists.mpr ⟨n, List.mem_filter.mpr ⟨hm, decide_eq_true hlt⟩, by simp⟩

/-- the tables a walk visits after coefficient `c`, in visiting order.  The fuel is there for structural
    recursion only: any `F ≥ above c` gives the same list (`chain_eq`); `chainC_eq` is the equation to use. -/
def chain (k : KV) : Nat → Nat → List Table
  | 0, _ => []
  | f + 1, c =>
    match k.findCoefficient c with
    | none => []
    | some n => match k.byCf n with
      | some t => t :: chain k f n
      | none => []

def chainC (k : KV) (c : Nat) : List Table := chain k (k.above c) c

theorem findCoefficient_byCf {k : KV} {c n : Nat} (hf : k.findCoefficient c = some n) : ∃ t, k.byCf n = some t := by
  obtain ⟨t, ht, hl, e⟩ := mem_cfs.mp ((findCoefficient_spec k c).2 n hf).1
  exact Option.ne_none_iff_exists'.mp (fun hb => byCf_none hb t ht hl e)

def fromCf (k : KV) (c : Nat) : List Table := (match k.byCf c with | some t => [t] | none => []) ++ k.chainC c

theorem fromCf_eq (k : KV) (c : Nat) : k.fromCf c = (k.byCf c).toList ++ k.chainC c := by
  unfold fromCf
  cases k.byCf c <;> rfl

theorem chain_eq (k : KV) {F c : Nat} (h : k.above c ≤ F) :
    chain k F c = match k.findCoefficient c with | none => [] | some n => k.fromCf n := by
  induction F using Nat.strongRecOn generalizing c with
  | ind F ih =>
    cases hf : k.findCoefficient c with
    | none => cases F <;> simp only [chain, hf]
    | some n =>
      obtain ⟨t, hb⟩ := findCoefficient_byCf hf
      have hlt := Nat.lt_of_lt_of_le (above_lt hf) h
      cases F with
      | zero => exact absurd hlt (Nat.not_lt_zero _)
      | succ F =>
        simp only [chain, hf, hb, fromCf, chainC, List.cons_append, List.nil_append]
        -- both fuels suffice from `n` on: either side is what the equation gives there
        rw [ih F (Nat.lt_succ_self _) (Nat.le_of_lt_succ hlt), ih (k.above n) hlt (Nat.le_refl _)]

theorem chainC_eq (k : KV) (c : Nat) :
    k.chainC c = match k.findCoefficient c with | none => [] | some n => k.fromCf n := by
  rw [chainC, chain_eq k (Nat.le_refl _)]

theorem chainC_some {k : KV} {c n : Nat} {t : Table} (hf : k.findCoefficient c = some n) (hb : k.byCf n = some t) :
    k.chainC c = t :: k.chainC n := by
  simp only [chainC_eq k c, hf, fromCf, hb, List.cons_append, List.nil_append]

theorem fromCf_spec (k : KV) (cu : k.CfUnique) (c : Nat) :
    (∀ x, x ∈ k.fromCf c ↔ (x ∈ k.newestFirst ∧ isRecycled x = false ∧ c ≤ x.cf)) ∧
    (k.fromCf c).Pairwise (fun x y => x.cf < y.cf) := by
  induction c using (measure k.above).wf.induction with
  | h c ih =>
    -- first `chainC c`: nothing, or (by induction) all from the next coefficient on
    obtain ⟨j1, j2⟩ : (∀ x, x ∈ k.chainC c ↔ (x ∈ k.newestFirst ∧ isRecycled x = false ∧ c < x.cf)) ∧
        (k.chainC c).Pairwise (fun x y => x.cf < y.cf) := by
      rw [chainC_eq]
      cases hf : k.findCoefficient c with
      | none =>
        refine ⟨fun x => ⟨nofun, fun ⟨hx, hl, hlt⟩ => ?_⟩, List.Pairwise.nil⟩
        exact absurd ((findCoefficient_spec k c).1.mp hf x.cf (mem_cfs.mpr ⟨x, hx, hl, rfl⟩)) (Nat.not_le_of_lt hlt)
      | some n =>
        obtain ⟨_, hcn, hmin⟩ := (findCoefficient_spec k c).2 n hf
        obtain ⟨i1, i2⟩ := ih n (above_lt hf)
        refine ⟨fun x => (i1 x).trans (and_congr_right fun h1 => and_congr_right fun h2 => ?_), i2⟩
        exact ⟨Nat.lt_of_lt_of_le hcn, hmin x.cf (mem_cfs.mpr ⟨x, h1, h2, rfl⟩)⟩
    -- then, in front of it, the table with coefficient `c` itself if there is one
    rw [fromCf_eq]
    refine ⟨fun x => ?_, List.pairwise_append.mpr ⟨Option.pairwise_toList, j2, fun a ha b hb => ?_⟩⟩
    · -- `x` is the table at `c` or lies in `chainC c` ↔ x ∈ newestFirst ∧ isRecycled x = false ∧ (x.cf = c ∨ c < x.cf)
      rw [List.mem_append, Option.mem_toList, byCf_eq_some_iff cu, j1 x, ← and_or_left, ← and_or_left,
        Nat.le_iff_lt_or_eq, or_comm, eq_comm (a := c)]
    · exact (byCf_mem (Option.mem_toList.mp ha)).2.2 ▸ ((j1 b).mp hb).2.2

/-- the page loop over a store that stays as it is -/
def walkP (k : KV) (m : Rec → Bool) (count : Nat) (now : Nat → Int) : Nat → Nat → List Rec
  | 0, _ => []
  | f + 1, c =>
    let r := k.scan c count m (now f)
    if r.1 = 0 then r.2.1 else r.2.1 ++ walkP k m count now f r.1

def yieldOf (m : Rec → Bool) (t : Table) : List Rec := (t.slots.filter (fun s => m s.r)).map (·.r)

/-- the pages the tables after coefficient `c` can take: (slots + 1) each -/
def restLen (k : KV) (c : Nat) : Nat := ((k.chainC c).map (fun x => x.slots.length + 1)).sum

/-- the table a page reads, its coefficient, and the cursor it starts from (a cursor that points
    at a coefficient without table is moved to the start of the next table) -/
def scanSel (k : KV) (cursor : Nat) : Option (Table × Nat × Nat) :=
  match k.byCf (cursor / k.tableSize) with
  | some t => some (t, cursor / k.tableSize, cursor)
  | none => match k.findCoefficient (cursor / k.tableSize) with
    | none => none
    | some cf' => (k.byCf cf').map (fun t => (t, cf', cf' * k.tableSize))

theorem scanSel_byCf {k : KV} {c : Nat} {q : Table × Nat × Nat} (h : k.scanSel c = some q) : k.byCf q.2.1 = some q.1 := by
  unfold scanSel at h
  split at h
  · cases h; assumption
  · split at h
    · cases h
    · obtain ⟨t, ht, rfl⟩ := Option.map_eq_some_iff.mp h
      exact ht

/-- the cursor handed back when the page of table `cf` ended at in-table cursor `tc` -/
def nextCursor (k : KV) (cf tc : Nat) : Nat :=
  if tc = 0 then (match k.findCoefficient cf with | none => 0 | some n => k.tableSize * n)
  else tc + k.tableSize * cf

theorem nextCursor_zero (k : KV) (cf : Nat) :
    k.nextCursor cf 0 = match k.findCoefficient cf with | none => 0 | some n => k.tableSize * n := if_pos rfl

theorem nextCursor_pos (k : KV) (cf tc : Nat) (h : tc ≠ 0) : k.nextCursor cf tc = tc + k.tableSize * cf := if_neg h

theorem scan_of_tableSize_zero {k : KV} (hT : k.tableSize = 0) (c count : Nat) (m : Rec → Bool) (now : Int) :
    k.scan c count m now = (0, [], k) := by simp [KV.scan, hT]

theorem scan_eq (k : KV) (hT : k.tableSize ≠ 0) (c count : Nat) (m : Rec → Bool) (now : Int) :
    k.scan c count m now = match k.scanSel c with
      | none => (0, [], k)
      | some (t, cf, cur) =>
        let p := t.scan (cur - k.tableSize * cf) count m now
        (k.nextCursor cf p.1, p.2.1, k.mapCf cf (fun _ => p.2.2)) := by
  rw [KV.scan, if_neg hT]
  -- the model's local `sel` unfolds to `scanSel c`
  show (match k.scanSel c with
    | none => (0, [], k)
    | some (t, cf, cur) => _) = _
  cases k.scanSel c with
  | none => rfl
  | some q =>
    -- the model decides `tc' = 0` around the triple, `nextCursor` inside its first component
    by_cases h0 : (q.1.scan (q.2.2 - k.tableSize * q.2.1) count m now).1 = 0
    · simp only [nextCursor, h0, if_true]
      cases k.findCoefficient q.2.1 <;> rfl
    · simp only [nextCursor, h0, if_false]

theorem scanSel_in_table {k : KV} {cf tc : Nat} {t : Table} (htc : tc < k.tableSize)
    (hb : k.byCf cf = some t) : k.scanSel (tc + k.tableSize * cf) = some (t, cf, tc + k.tableSize * cf) := by
  have hdiv : (tc + k.tableSize * cf) / k.tableSize = cf := by
    rw [Nat.add_mul_div_left _ _ (Nat.zero_lt_of_lt htc), Nat.div_eq_of_lt htc, Nat.zero_add]
  simp only [scanSel, hdiv, hb]

/-- the page loop inside table `cf` from in-table cursor `tc`: the rest of that table, then every
    later table in ascending order of coefficient, each matching entry exactly once -/
theorem walkP_in_table (k : KV) (w : k.WF) (si : k.ScanInv) (hT : 0 < k.tableSize) (m : Rec → Bool)
    (count : Nat) (hc : 1 ≤ count) (now : Nat → Int) (fuel : Nat) :
    ∀ (cf tc : Nat) (t : Table), k.byCf cf = some t → tc < k.tableSize →
      (t.slots.filter (fun s => decide (s.off ≥ tc))).length + 1 + k.restLen cf ≤ fuel →
      walkP k m count now fuel (tc + k.tableSize * cf) =
        ((t.slots.filter (fun s => decide (s.off ≥ tc))).filter (fun s => m s.r)).map (·.r) ++
          (k.chainC cf).flatMap (yieldOf m) := by
  induction fuel with
  | zero => exact fun _ _ _ _ _ h => absurd (Nat.le_trans (Nat.le_add_right _ _) h) (Nat.not_succ_le_zero _)
  | succ fuel ih =>
    intro cf tc t hb htc hfuel
    -- one page is spent here: the fuel left covers the slots left in `t` and the later tables
    rw [Nat.add_right_comm, Nat.add_le_add_iff_right] at hfuel
    obtain ⟨htm, _, _⟩ := byCf_mem hb
    obtain ⟨i1, i2⟩ := page_spec m t.slots count (sorted_of_layout (w.layout t htm)) hc tc
    simp only [walkP, scan_eq k (Nat.ne_of_gt hT), scanSel_in_table htc hb, Nat.add_sub_cancel]
    rw [scan_fst, scan_recs]
    generalize scanAux m (t.slots.filter (fun s => decide (s.off ≥ tc))) count tc [] = res at i1 i2 ⊢
    by_cases h0 : res.1 = 0
    · -- this table is exhausted: stop, or go on at the start of the next one
      rw [h0, nextCursor_zero, i1 h0]
      cases hf : k.findCoefficient cf with
      | none => simp [chainC_eq, hf]
      | some n =>
        obtain ⟨t2, hb2⟩ := findCoefficient_byCf hf
        have hcn := ((findCoefficient_spec k cf).2 n hf).2.1
        -- `t2` heads the later tables
        simp only [restLen, chainC_some hf hb2, List.map_cons, List.sum_cons, List.flatMap_cons] at hfuel ⊢
        have := ih n 0 t2 hb2 hT
        rw [Nat.zero_add, filter_ge_zero] at this
        rw [if_neg (Nat.mul_ne_zero (Nat.ne_of_gt hT) (Nat.ne_zero_of_lt hcn)),
          this (Nat.le_trans (Nat.le_add_left _ _) hfuel)]
        rfl
    · -- more of this table, with fewer slots left
      obtain ⟨e, ⟨s, hsm, hsr⟩, hlen⟩ := i2 h0
      have hlt : res.1 < k.tableSize := calc
        res.1 ≤ s.off := hsr
        _ < s.off + s.r.size := off_lt_end s
        _ ≤ t.off := (w.layout t htm).2 s hsm
        _ ≤ t.alloc := si.offLe t htm
        _ = k.tableSize := w.alloc t htm
      rw [nextCursor_pos k cf _ h0, if_neg (fun e0 => h0 (Nat.add_eq_zero_iff.mp e0).1),
        ih cf res.1 t hb hlt (Nat.le_trans (Nat.add_le_add_right hlen _) hfuel),
        ← e, List.map_append, List.append_assoc]

/-- the tables a walk from cursor 0 visits -/
def startTables (k : KV) : List Table :=
  (match k.byCf 0 with | some t => [t] | none => []) ++ k.chainC 0

def totalLen (k : KV) : Nat := ((k.startTables).map (fun x => x.slots.length + 1)).sum

/-- a cursor on a coefficient without a table goes on at the next table, if there is one, with the same
    fuel: no page is spent -/
theorem walkP_hole (k : KV) (hT : 0 < k.tableSize) (m : Rec → Bool) (count : Nat) (now : Nat → Int) (fuel : Nat) {c : Nat}
    (hb : k.byCf (c / k.tableSize) = none) :
    walkP k m count now fuel c = match k.findCoefficient (c / k.tableSize) with
      | none => []
      | some n => walkP k m count now fuel (k.tableSize * n) := by
  cases fuel with
  | zero => cases k.findCoefficient (c / k.tableSize) <;> rfl
  | succ fuel =>
    have hne : k.tableSize ≠ 0 := Nat.ne_of_gt hT
    cases hf : k.findCoefficient (c / k.tableSize) with
    | none => simp only [walkP, scan_eq k hne, scanSel, hb, hf, if_true]
    | some n =>
      -- both pages select the same table and in-table cursor
      obtain ⟨t, ht⟩ := findCoefficient_byCf hf
      simp only [walkP, scan_eq k hne, scanSel, hb, hf, ht, Nat.mul_div_cancel_left n hT, Option.map_some,
        Nat.mul_comm n k.tableSize]

/-- `c` may be a hole in the numbering; `c = 0` is the whole store, within (entries + tables) pages. -/
theorem walkP_fromCf (k : KV) (w : k.WF) (si : k.ScanInv) (hT : 0 < k.tableSize) (m : Rec → Bool)
    (count : Nat) (hc : 1 ≤ count) (now : Nat → Int) (fuel c : Nat)
    (hfuel : ((k.fromCf c).map (fun x => x.slots.length + 1)).sum ≤ fuel) :
    walkP k m count now fuel (k.tableSize * c) = (k.fromCf c).flatMap (yieldOf m) := by
  -- from the start of a table: `walkP_in_table` at in-table cursor 0
  have tab : ∀ n t, k.byCf n = some t → ((k.fromCf n).map (fun x => x.slots.length + 1)).sum ≤ fuel →
      walkP k m count now fuel (k.tableSize * n) = (k.fromCf n).flatMap (yieldOf m) := by
    intro n t hb hf
    simp only [fromCf, hb, List.cons_append, List.nil_append, List.map_cons, List.sum_cons, List.flatMap_cons] at hf ⊢
    have := walkP_in_table k w si hT m count hc now fuel n 0 t hb hT
    rw [Nat.zero_add, filter_ge_zero] at this
    exact this hf
  cases hb : k.byCf c with
  | some t => exact tab c t hb hfuel
  | none =>
    have hdiv : k.tableSize * c / k.tableSize = c := Nat.mul_div_cancel_left c hT
    rw [walkP_hole k hT m count now fuel (hdiv.symm ▸ hb), hdiv]
    rw [show k.fromCf c = k.chainC c by simp only [fromCf, hb, List.nil_append], chainC_eq] at hfuel ⊢
    cases hf : k.findCoefficient c with
    | none => rfl
    | some n =>
      rw [hf] at hfuel
      obtain ⟨t2, hb2⟩ := findCoefficient_byCf hf
      exact tab n t2 hb2 hfuel

theorem startTables_perm (k : KV) (cu : k.CfUnique) :
    (k.startTables).Perm (k.newestFirst.filter (fun t => !isRecycled t)) := by
  obtain ⟨hmem, hasc⟩ := fromCf_spec k cu 0
  -- both lists are duplicate-free (ascending, resp. pairwise different coefficients) and have the same members
  have hn1 : (k.startTables).Nodup := hasc.imp fun h e => Nat.ne_of_lt h (congrArg cf e)
  have hn2 : (k.newestFirst.filter (fun t => !isRecycled t)).Nodup :=
    List.pairwise_filter.mpr (cu.imp fun d ha hb e =>
      d ((Bool.not_eq_true' _).mp ha) ((Bool.not_eq_true' _).mp hb) (congrArg cf e))
  rw [List.perm_ext_iff_of_nodup hn1 hn2]
  intro x
  rw [show k.startTables = k.fromCf 0 from rfl, hmem x, List.mem_filter]
  simp

/-- what `Range` enumerates, restricted to the pattern, table by table: recycled tables hold nothing -/
theorem rangeAll_filter (k : KV) (w : k.WF) (m : Rec → Bool) :
    (k.rangeAll.filter (fun p => m p.2)).map (·.2) =
      (k.newestFirst.filter (fun t => !isRecycled t)).flatMap (yieldOf m) := by
  have hrec : ∀ t ∈ k.newestFirst, isRecycled t = true → t.slots = [] := by
    intro t ht hr
    rcases mem_newestFirst.mp ht with hh | ht
    · simp [isRecycled, w.headRW t hh] at hr
    · exact w.recEmpty t ht hr
  simp only [rangeAll, List.filter_flatMap, List.map_flatMap]
  generalize k.newestFirst = ts at hrec
  induction ts with
  | nil => rfl
  | cons t ts ih =>
    have ih' := ih (fun x hx => hrec x (List.mem_cons_of_mem _ hx))
    simp only [List.flatMap_cons, List.filter_cons]
    have hy : List.map (fun x => x.2) (List.filter (fun p => m p.2) (List.map (fun s => (s.hk, s.r)) t.slots)) = yieldOf m t := by
      simp only [yieldOf, List.filter_map, List.map_map]
      rfl
    rw [hy, ih']
    cases hr : isRecycled t with
    | false => simp
    | true => simp [yieldOf, hrec t List.mem_cons_self hr]

end KV
end Olric
