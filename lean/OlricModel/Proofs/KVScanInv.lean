/- `ScanInv` is kept by every store operation.  It is read off `regs`, the coefficients registered in
   `tablesByCoefficient`: an operation that registers nothing new keeps it (`ScanInv.of_sublist`);
   `makeTable` alone registers one, `nextCf`, which is above all others. -/
import OlricModel.Proofs.KVWalk
import OlricModel.Proofs.KVInv
namespace Olric
open Table
namespace KV

/-- the coefficient under which a table is registered in `tablesByCoefficient`, if it is -/
def reg (t : Table) : Option Nat := if isRecycled t then none else some t.cf

/-- registered coefficients, newest table first: the members of the model's `cfs` (`mem_cfs`), as a
    `filterMap` over `newestFirst`, the list `ScanInv` and the `Sublist` arguments below run over -/
def regs (k : KV) : List Nat := k.newestFirst.filterMap reg

theorem reg_eq {a b : Table} (hs : a.state = b.state) (hc : a.cf = b.cf) : reg a = reg b := by
  unfold reg isRecycled; rw [hs, hc]

theorem reg_eq_some {t : Table} {c : Nat} : reg t = some c ↔ isRecycled t = false ∧ t.cf = c := by
  unfold reg; cases isRecycled t <;> simp

theorem pairwise_cfDisj_iff {ts : List Table} : ts.Pairwise CfDisj ↔ (ts.filterMap reg).Nodup := by
  rw [List.Nodup, List.pairwise_filterMap]
  refine List.Pairwise.iff (fun {a b} => ?_)
  simp only [reg_eq_some]
  exact ⟨fun h c ⟨ha, hc⟩ d ⟨hb, hd⟩ => hc ▸ hd ▸ h ha hb, fun h ha hb => h _ ⟨ha, rfl⟩ _ ⟨hb, rfl⟩⟩

theorem mem_regs {k : KV} {c : Nat} : c ∈ regs k ↔ ∃ t ∈ k.newestFirst, isRecycled t = false ∧ t.cf = c := by
  simp only [regs, List.mem_filterMap, reg_eq_some]

theorem scanInv_iff (k : KV) : k.ScanInv ↔
    (regs k).Nodup ∧ (∀ c ∈ regs k, c < k.nextCf) ∧ ∀ t ∈ k.newestFirst, t.off ≤ t.alloc := by
  constructor
  · intro si
    refine ⟨pairwise_cfDisj_iff.mp si.cfd, fun c hc => ?_, si.offLe⟩
    obtain ⟨t, ht, hl, rfl⟩ := mem_regs.mp hc
    exact si.cfLt t ht hl
  · rintro ⟨h1, h2, h3⟩
    exact ⟨pairwise_cfDisj_iff.mpr h1, fun t ht hl => h2 _ (mem_regs.mpr ⟨t, ht, hl, rfl⟩), h3⟩

theorem ScanInv.of_sublist {k k' : KV} (si : k.ScanInv) (hr : (regs k').Sublist (regs k)) (hn : k.nextCf ≤ k'.nextCf)
    (ho : ∀ t ∈ k'.newestFirst, t.off ≤ t.alloc) : k'.ScanInv := by
  obtain ⟨h1, h2, _⟩ := (scanInv_iff k).mp si
  exact (scanInv_iff k').mpr ⟨h1.sublist hr, fun c hc => Nat.lt_of_lt_of_le (h2 c (hr.subset hc)) hn, ho⟩

theorem regs_cons_sublist {a a' : Table} {l l' : List Table} (h : reg a' = reg a ∨ reg a' = none)
    (hs : (l'.filterMap reg).Sublist (l.filterMap reg)) :
    ((a' :: l').filterMap reg).Sublist ((a :: l).filterMap reg) := by
  rw [List.filterMap_cons, List.filterMap_cons]
  rcases h with h | h <;> rw [h]
  · cases reg a with
    | none => exact hs
    | some c => exact hs.cons_cons c
  · cases reg a with
    | none => exact hs
    | some c => exact hs.cons c

theorem regs_map_sublist {g : Table → Table} (hg : ∀ t, reg (g t) = reg t ∨ reg (g t) = none) {ts : List Table} :
    ((ts.map g).filterMap reg).Sublist (ts.filterMap reg) := by
  induction ts with
  | nil => exact List.Sublist.refl _
  | cons t ts ih => exact regs_cons_sublist (hg t) ih

theorem scanInv_fork (size : Nat) (idle : Int) : ScanInv (KV.fork size idle) := by
  refine ⟨by simp [fork, newestFirst], ?_, ?_⟩
  · intro t ht _; simp [fork, newestFirst] at ht; subst ht; simp [fork, Table.new]
  · intro t ht; simp [fork, newestFirst] at ht; subst ht; simp [Table.new]

theorem scanInv_empty (size : Nat) (idle : Int) : ScanInv (KV.empty size idle) := by
  refine ⟨by simp [KV.empty, newestFirst], ?_, ?_⟩ <;> intro t ht <;> simp [KV.empty, newestFirst] at ht

theorem scanInv_invariant : Invariant (fun _ => True) ScanInv where
  stored _ _ _ _ _ _ _ := trivial
  mapAll k g sg hcf _ si := by
    refine si.of_sublist ?_ (Nat.le_refl _) ?_
    · rw [regs, newestFirst_mapAll]
      exact regs_map_sublist fun t => Or.inl (reg_eq (sg.state t) (hcf t))
    · rw [newestFirst_mapAll]
      exact List.forall_mem_map.mpr fun x hx => by rw [sg.off, sg.alloc]; exact si.offLe x hx
  makeTable k _ w si _ _ := by
    obtain ⟨h1, h2, h3⟩ := (scanInv_iff k).mp si
    obtain ⟨hd, mt⟩ := makeTable_cases k w
    -- demoting the head registers nothing new
    have hdem : (k.demoted.filterMap reg).Sublist (regs k) := by
      unfold demoted regs newestFirst
      cases hx : k.head with
      | none => exact List.Sublist.refl _
      | some x => exact regs_cons_sublist (Or.inl (by simp [reg, isRecycled, w.headRW x hx])) (List.Sublist.refl _)
    -- the new head takes `nextCf`, above everything registered; behind it is part of the demoted list
    have hl := (mt.sub.filterMap reg).trans hdem
    have hr : reg hd = some k.nextCf := by simp [reg, isRecycled, mt.state, mt.cf]
    rw [scanInv_iff, regs, newestFirst_of_head mt.head, List.filterMap_cons, hr, makeTable_nextCf]
    refine ⟨List.nodup_cons.mpr ⟨fun hm => Nat.lt_irrefl _ (h2 _ (hl.subset hm)), h1.sublist hl⟩,
      List.forall_mem_cons.mpr ⟨Nat.lt_succ_self _, fun c hc => Nat.lt_succ_of_lt (h2 c (hl.subset hc))⟩,
      List.forall_mem_cons.mpr ⟨by rw [mt.blank.off]; exact Nat.zero_le _, fun t ht => ?_⟩⟩
    -- and moves no offset
    rcases mem_demoted (mt.sub.subset ht) with h | ⟨x, hx, rfl⟩
    · exact h3 t (mem_of_old h)
    · exact h3 x (mem_of_head hx)
  commit k hd h r _ si hh _ hfit := by
    refine si.of_sublist ?_ (Nat.le_refl _) (List.forall_mem_cons.mpr ⟨?_, List.forall_mem_map.mpr fun x hx => ?_⟩)
    · rw [regs, regs, newestFirst_of_head hh, commit_newestFirst]
      exact regs_cons_sublist (Or.inl (reg_eq (write_state hd h r) (write_cf hd h r)))
        (regs_map_sublist fun t => Or.inl (reg_eq (deleteD_state t h) (deleteD_cf t h)))
    · rw [write_off, write_alloc, Nat.add_comm]; exact Nat.le_of_lt hfit
    · rw [deleteD_off, deleteD_alloc]; exact si.offLe x (mem_of_old hx)
  resetDrained k cf now _ si := by
    -- a table that is reset is not registered any more and starts again at offset 0
    have hg : ∀ x, (reg (resetIf cf now x) = reg x ∨ reg (resetIf cf now x) = none) ∧
        (x.off ≤ x.alloc → (resetIf cf now x).off ≤ (resetIf cf now x).alloc) := by
      intro x
      rcases resetIf_cases cf now x with e | ⟨e, _⟩ <;> rw [e]
      · exact ⟨Or.inl rfl, id⟩
      · exact ⟨Or.inr rfl, fun _ => Nat.zero_le _⟩
    refine si.of_sublist ?_ (Nat.le_refl _) ?_
    · rw [regs, resetDrained_newestFirst, regs, newestFirst, List.filterMap_append, List.filterMap_append]
      exact (List.Sublist.refl _).append (regs_map_sublist fun t => (hg t).1)
    · rw [resetDrained_newestFirst]
      exact List.forall_mem_append.mpr ⟨fun t ht => si.offLe t (List.mem_append_left _ ht),
        List.forall_mem_map.mpr fun x hx => (hg x).2 (si.offLe x (mem_of_old hx))⟩
  dropOld k old' hs _ si := by
    have hsub : (k.head.toList ++ old').Sublist k.newestFirst := (List.Sublist.refl _).append hs
    exact si.of_sublist (hsub.filterMap reg) (Nat.le_refl _) (fun t ht => si.offLe t (hsub.subset ht))

end KV
end Olric
