/- Table export (+drop) and import with the last-write-wins merge; Stats.Length and Range. -/
import OlricModel.Proofs.KVOps
import OlricModel.Proofs.KVPut
namespace Olric
open Table
namespace KV

/-- Export + Drop: exactly the keys indexed by the exported table leave the store. -/
theorem exportDrop_spec (k k' : KV) (t : Table) (w : k.WF) (he : k.exportDrop = some (t, k')) :
    k'.WF ∧ k'.tableSize = k.tableSize ∧ t ∈ k.newestFirst ∧
    (∀ h s, t.find h = some s → k.lookup h = some s.r ∧ k'.lookup h = none) ∧
    (∀ h, t.find h = none → k'.lookup h = k.lookup h) := by
  -- either way `t` sits at one place of `newestFirst` and `k'` is the store without it
  have key : ∃ l1 l2, k.newestFirst = l1 ++ t :: l2 ∧ k'.newestFirst = l1 ++ l2 ∧ k'.WF ∧
      k'.tableSize = k.tableSize := by
    unfold exportDrop at he
    cases hp : pickLast (fun t => !isRecycled t) k.old with
    | some q =>
      obtain ⟨t0, rest⟩ := q
      simp only [hp] at he
      cases he
      obtain ⟨a, b, hab, rfl, _, _⟩ := pickLast_some hp
      refine ⟨k.head.toList ++ a, b, by rw [newestFirst, hab, List.append_assoc],
        (List.append_assoc _ _ _).symm, wf_of_sublist w rfl (fun _ e => e) ?_, rfl⟩
      rw [hab]; exact (List.Sublist.refl a).append (List.sublist_cons_self _ b)
    | none =>
      simp only [hp] at he
      cases hh : k.head with
      | none => simp [hh] at he
      | some hd =>
        simp only [hh] at he
        split at he <;> cases he
        exact ⟨[], k.old, newestFirst_of_head hh, rfl,
          wf_of_sublist w rfl (fun _ e => by cases e) (List.Sublist.refl _), rfl⟩
  obtain ⟨l1, l2, e, e', w', s'⟩ := key
  refine ⟨w', s', by rw [e]; simp, fun h s hs => ?_, fun h hn => ?_⟩
  · obtain ⟨x, y⟩ := findIn_remove l1 l2 (e ▸ w.unique) hs
    exact ⟨by rw [lookup, e, x]; rfl, by rw [lookup, e', y]; rfl⟩
  · rw [lookup, lookup, e, e', findIn_skip l1 l2 hn]

/-- the last-write-wins winner of a stored and an incoming version (incoming wins ties) -/
def lww (cur : Option Rec) (inc : Rec) (now : Int) : Option Rec :=
  match cur with
  | none => some { inc with la := now }
  | some c => if inc.ts ≥ c.ts then some { inc with la := now } else some { c with la := now }

theorem merge_spec (k : KV) (w : k.WF) (h : Nat) (r : Rec) (now : Int)
    (hfit : r.size < k.tableSize ∧ r.key.length < 256) :
    (k.merge h r now).1.WF ∧ (k.merge h r now).1.tableSize = k.tableSize ∧ (k.merge h r now).2 = .ok ∧
    ∀ h', (k.merge h r now).1.lookup h' = if h' = h then lww (k.lookup h) r now else k.lookup h' := by
  -- the incoming version is put into the store Get leaves, unless the stored one is strictly newer: then that
  -- store is the result
  have key : (k.merge h r now = (k.get h now).2.put h r now ∧ lww (k.lookup h) r now = some { r with la := now }) ∨
      (k.merge h r now = ((k.get h now).2, .ok) ∧
        lww (k.lookup h) r now = (k.lookup h).map fun r => { r with la := now }) := by
    rw [merge, get_eq k w.unique]
    cases k.lookup h with
    | none => exact Or.inl ⟨rfl, rfl⟩
    | some c =>
      dsimp only [lww]
      by_cases hge : r.ts ≥ c.ts
      · rw [if_pos hge, if_pos hge]; exact Or.inl ⟨rfl, rfl⟩
      · rw [if_neg hge, if_neg hge]; exact Or.inr ⟨rfl, rfl⟩
  obtain ⟨gw, gs, -, gl⟩ := get_spec k w h now
  rcases key with ⟨e, hl⟩ | ⟨e, hl⟩ <;> rw [e, hl]
  · obtain ⟨pw, ps, pc, pl⟩ := put_spec _ gw h r now
    have hbig := Nat.not_le.mpr (gs ▸ hfit.1)
    have hkey := Nat.not_le.mpr hfit.2
    refine ⟨pw, ps.trans gs, by rw [pc, if_neg hbig, if_neg hkey], fun h' => ?_⟩
    rw [pl h', if_neg (not_or.mpr ⟨hbig, hkey⟩)]
    -- on the other keys Get's store looks up as `k` does
    exact ite_congr rfl (fun _ => rfl) fun e => (gl h').trans (if_neg e)
  · exact ⟨gw, gs, rfl, gl⟩

/-- Import of one exported table with the merge callback keeps the invariant and changes no key outside
    the table. -/
theorem importTable_spec (slots : List Slot) (k : KV) (w : k.WF) (now : Int)
    (hfit : ∀ s ∈ slots, s.r.size < k.tableSize ∧ s.r.key.length < 256) :
    (slots.foldl (fun k s => (k.merge s.hk s.r now).1) k).WF ∧
    (slots.foldl (fun k s => (k.merge s.hk s.r now).1) k).tableSize = k.tableSize ∧
    ∀ h, (∀ s ∈ slots, s.hk ≠ h) → (slots.foldl (fun k s => (k.merge s.hk s.r now).1) k).lookup h = k.lookup h := by
  refine List.foldlRecOn (motive := fun b : KV => b.WF ∧ b.tableSize = k.tableSize ∧
    ∀ h, (∀ s ∈ slots, s.hk ≠ h) → b.lookup h = k.lookup h) slots _ ⟨w, rfl, fun _ _ => rfl⟩
    (fun b ⟨wb, sb, lb⟩ s hs => ?_)
  obtain ⟨w1, s1, _, l1⟩ := merge_spec b wb s.hk s.r now (sb ▸ hfit s hs)
  exact ⟨w1, s1.trans sb, fun h hne => by rw [l1 h, if_neg (Ne.symm (hne s hs)), lb h hne]⟩

theorem lww_idem (cur : Option Rec) (r : Rec) (now : Int) : lww (lww cur r now) r now = lww cur r now := by
  cases cur with
  | none => exact if_pos (Int.le_refl _)
  | some c =>
    dsimp only [lww]
    by_cases hge : r.ts ≥ c.ts
    · rw [if_pos hge]; exact if_pos (Int.le_refl _)
    · rw [if_neg hge]; exact if_neg hge

/-- kvstore.Import of table `t` in any Range order: a key of `t` that the order lists ends up with the LWW winner, every
    other key stays as it is. -/
theorem importTable_key (k : KV) (w : k.WF) (t : Table) (order : List Nat) (now : Int)
    (hfit : ∀ s ∈ t.slots, s.r.size < k.tableSize ∧ s.r.key.length < 256) :
    (k.importTable t order now).WF ∧ ∀ h, (k.importTable t order now).lookup h =
      match t.find h with
      | some s => if h ∈ order then lww (k.lookup h) s.r now else k.lookup h
      | none => k.lookup h := by
  rw [importTable]
  induction order generalizing k with
  | nil => exact ⟨w, fun h => by cases t.find h <;> rfl⟩
  | cons o order ih =>
    cases ho : t.find o with
    | none =>
      rw [List.filterMap_cons_none ho]
      obtain ⟨wi, li⟩ := ih k w hfit
      refine ⟨wi, fun h => (li h).trans ?_⟩
      by_cases e : h = o
      · subst e; rw [ho]
      · simp only [List.mem_cons, or_iff_right e]
    | some x =>
      rw [List.filterMap_cons_some ho, List.foldl_cons]
      obtain ⟨w1, s1, -, l1⟩ := merge_spec k w x.hk x.r now (hfit x (List.mem_of_find?_eq_some ho))
      obtain ⟨wi, li⟩ := ih _ w1 (by rw [s1]; exact hfit)
      refine ⟨wi, fun h => (li h).trans ?_⟩
      rw [l1 h, find_hk ho]
      by_cases e : h = o
      · -- where `o` is listed again the winner meets the same incoming version, and stays
        subst e
        simp only [ho, if_true, if_pos List.mem_cons_self, lww_idem, ite_self]
      · simp only [if_neg e, List.mem_cons, or_iff_right e]

theorem rangeAll_spec (k : KV) (w : k.WF) :
    ((k.rangeAll.map (·.1)).Nodup) ∧ (∀ h r, (h, r) ∈ k.rangeAll ↔ k.lookup h = some r) := by
  constructor
  · -- the hkeys of Range are the key lists of the tables, one after the other
    have : k.rangeAll.map (·.1) = k.newestFirst.flatMap keys := by
      simp only [rangeAll, List.map_flatMap, List.map_map, Function.comp_def]; rfl
    rw [this, List.Nodup, List.pairwise_flatMap]
    refine ⟨w.nodup, w.unique.imp (fun {a b} d x hx y hy e => ?_)⟩
    subst e
    exact (d x).elim (find_ne_none_of_mem_keys hx) (find_ne_none_of_mem_keys hy)
  · intro h r
    simp only [rangeAll, List.mem_flatMap, List.mem_map, Prod.mk.injEq, lookup, Option.map_eq_some_iff]
    constructor
    · rintro ⟨t, ht, s, hs, rfl, rfl⟩
      exact ⟨s, findIn_of_mem w.unique ht (find_of_mem_nodup (w.nodup t ht) hs), rfl⟩
    · rintro ⟨s, hf, rfl⟩
      obtain ⟨t, ht, hts⟩ := findIn_some hf
      exact ⟨t, ht, s, List.mem_of_find?_eq_some hts, find_hk hts, rfl⟩

/-- Stats.Length counts every stored slot once; with `rangeAll_spec`, every present key once -/
theorem stats_length (k : KV) : k.stats.length = k.rangeAll.length := by
  simp only [stats, rangeAll, ((tables_perm k).map fun t => t.slots.length).sum_nat, List.length_flatMap, List.length_map]

theorem stats_length_split (k : KV) :
    k.stats.length = (k.head.toList.map (fun t => t.slots.length)).sum + (k.old.map (fun t => t.slots.length)).sum := by
  show (k.tables.map _).sum = _
  rw [((tables_perm k).map _).sum_nat, newestFirst, List.map_append, List.sum_append_nat]

end KV
end Olric
