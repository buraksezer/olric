/- The store invariant `WF`, read table by table, and three of the store transformers that keep it: makeTable,
   a `Stable` function mapped over all tables, dropping tables. -/
import OlricModel.Proofs.KVLemmas
namespace Olric
open Table
namespace KV

def keys (t : Table) : List Nat := t.slots.map (·.hk)

theorem find_ne_none_of_mem_keys {t : Table} {h : Nat} (hk : h ∈ keys t) : t.find h ≠ none := by
  intro hn
  obtain ⟨s, hs, rfl⟩ := List.mem_map.mp hk
  simpa using List.find?_eq_none.mp hn s hs

/-- The store invariant.  `recEmpty` / `recOff`: a recycled table was `reset` (no slots, offset 0).  `fits`: every stored
    record is smaller than a table and its key shorter than 256 bytes, the two guards of Put (PutRaw has the first only;
    for the key its caller vouches, `C11.Op.ok`) — so neither Compaction, which re-inserts stored records through PutRaw,
    nor Import into a store of the same table size, which does so through Put, is refused.  `acct` / `tot`: `inuse` is
    the bytes of the live records, `inuse + garbage` the bytes written (`off`).  `layout`: the live records lie in write
    order without overlap, below `off`.  `unique`: no two tables hold the same key (Put and PutRaw delete the key from
    every older table). -/
structure WF (k : KV) : Prop where
  recEmpty : RecEmpty k.old
  unique : k.Unique
  headRW : ∀ t, k.head = some t → t.state = .rw
  oldNotRW : ∀ t ∈ k.old, t.state ≠ .rw
  alloc : ∀ t ∈ k.newestFirst, t.alloc = k.tableSize
  recOff : ∀ t ∈ k.old, isRecycled t = true → t.off = 0
  nodup : ∀ t ∈ k.newestFirst, (keys t).Nodup
  acct : ∀ t ∈ k.newestFirst, t.inuse = sumSize t.slots
  fits : ∀ t ∈ k.newestFirst, ∀ s ∈ t.slots, s.r.size < k.tableSize ∧ s.r.key.length < 256
  tot : ∀ t ∈ k.newestFirst, t.inuse + t.garbage = t.off
  layout : ∀ t ∈ k.newestFirst, t.Layout

theorem mem_newestFirst {k : KV} {t : Table} : t ∈ k.newestFirst ↔ k.head = some t ∨ t ∈ k.old := by
  simp [newestFirst]

theorem mem_of_old {k : KV} {t : Table} (h : t ∈ k.old) : t ∈ k.newestFirst := mem_newestFirst.mpr (Or.inr h)
theorem mem_of_head {k : KV} {t : Table} (h : k.head = some t) : t ∈ k.newestFirst := mem_newestFirst.mpr (Or.inl h)

/-- what `WF` asks of every table of a store with table size `n` -/
structure TableOK (n : Nat) (t : Table) : Prop where
  alloc : t.alloc = n
  nodup : (keys t).Nodup
  acct : t.inuse = sumSize t.slots
  fits : ∀ s ∈ t.slots, s.r.size < n ∧ s.r.key.length < 256
  tot : t.inuse + t.garbage = t.off
  layout : t.Layout

/-- what `WF` asks in addition of every table behind the head -/
structure Retired (t : Table) : Prop where
  notRW : t.state ≠ .rw
  empty : isRecycled t = true → t.slots = []
  off : isRecycled t = true → t.off = 0

theorem WF.ok {k : KV} (w : k.WF) {t : Table} (ht : t ∈ k.newestFirst) : TableOK k.tableSize t :=
  ⟨w.alloc t ht, w.nodup t ht, w.acct t ht, w.fits t ht, w.tot t ht, w.layout t ht⟩

theorem WF.old_ok {k : KV} (w : k.WF) {t : Table} (ht : t ∈ k.old) : Retired t ∧ TableOK k.tableSize t :=
  ⟨⟨w.oldNotRW t ht, w.recEmpty t ht, w.recOff t ht⟩, w.ok (mem_of_old ht)⟩

theorem WF.head_ok {k : KV} (w : k.WF) {t : Table} (hh : k.head = some t) : t.state = .rw ∧ TableOK k.tableSize t :=
  ⟨w.headRW t hh, w.ok (mem_of_head hh)⟩

theorem WF.of_tables {k : KV} (hu : k.Unique) (hh : ∀ t, k.head = some t → t.state = .rw ∧ TableOK k.tableSize t)
    (ho : ∀ t ∈ k.old, Retired t ∧ TableOK k.tableSize t) : k.WF :=
  have ht : ∀ t ∈ k.newestFirst, TableOK k.tableSize t := fun t ht =>
    (mem_newestFirst.mp ht).elim (fun e => (hh t e).2) (fun e => (ho t e).2)
  ⟨fun t h => (ho t h).1.empty, hu, fun t h => (hh t h).1, fun t h => (ho t h).1.notRW, fun t h => (ht t h).alloc,
    fun t h => (ho t h).1.off, fun t h => (ht t h).nodup, fun t h => (ht t h).acct, fun t h => (ht t h).fits,
    fun t h => (ht t h).tot, fun t h => (ht t h).layout⟩

/-- a table nothing was written to since it was made or reset -/
structure Blank (t : Table) : Prop where
  slots : t.slots = []
  off : t.off = 0
  inuse : t.inuse = 0
  garbage : t.garbage = 0

theorem Blank.ok {n : Nat} {t : Table} (hb : Blank t) (ha : t.alloc = n) : TableOK n t := by
  obtain ⟨hs, ho, hi, hg⟩ := hb
  exact ⟨ha, by simp [keys, hs], by rw [hi, hs]; rfl, by simp [hs], by rw [hi, hg, ho], by simp [Layout, hs]⟩

theorem disj_of_find_eq {a a' b b' : Table} (ha : ∀ h, a'.find h = a.find h) (hb : ∀ h, b'.find h = b.find h)
    (d : Disj a b) : Disj a' b' := by
  intro h; rw [ha, hb]; exact d h

theorem disj_of_nil_left {a b : Table} (ha : a.slots = []) : Disj a b := fun _ => Or.inl (find_eq_none_of_slots_nil ha)
theorem disj_of_nil_right {a b : Table} (hb : b.slots = []) : Disj a b := fun _ => Or.inr (find_eq_none_of_slots_nil hb)

/-- `makeTable` first retires the head; the store it goes on with is well-formed -/
theorem demoted_wf (k : KV) (w : k.WF) : ({ k with head := none, old := k.demoted } : KV).WF := by
  refine WF.of_tables ?_ (fun t ht => by cases ht) (fun t ht => ?_)
  · have hu := w.unique
    unfold Unique newestFirst demoted at *
    revert hu
    cases k.head with
    | none => exact id
    | some hd =>
      -- `find` reads the slots only, so demoting the head keeps `Disj` as it is
      intro hu
      have hu := List.pairwise_cons.mp hu
      exact List.pairwise_cons.mpr hu
  · rcases mem_demoted ht with h | ⟨hd, hh, rfl⟩
    · exact w.old_ok h
    · -- `TableOK` does not look at the state
      have ok := (w.head_ok hh).2
      exact ⟨⟨nofun, nofun, nofun⟩,
        ⟨ok.alloc, ok.nodup, ok.acct, ok.fits, ok.tot, ok.layout⟩⟩

theorem makeTable_tableSize (k : KV) : k.makeTable.tableSize = k.tableSize := by
  rw [makeTable_eq]; cases pickLast isRecycled k.demoted <;> rfl

theorem makeTable_nextCf (k : KV) : k.makeTable.nextCf = k.nextCf + 1 := by
  rw [makeTable_eq]; cases pickLast isRecycled k.demoted <;> rfl

theorem WF.blank {k : KV} (w : k.WF) {t : Table} (ht : t ∈ k.old) (hr : isRecycled t = true) : Blank t := by
  obtain ⟨r, ok⟩ := w.old_ok ht
  obtain ⟨hi, hg⟩ := Nat.add_eq_zero_iff.mp (ok.tot.trans (r.off hr))
  exact ⟨r.empty hr, r.off hr, hi, hg⟩

/-- what `k' = k.makeTable` looks like on a well-formed `k`: a blank read-write table `hd` in front, behind it the
    former head (now read-only) and the older tables, one recycled table at most taken out of them. -/
structure MadeTable (k k' : KV) (hd : Table) : Prop where
  head : k'.head = some hd
  blank : Blank hd
  alloc : hd.alloc = k.tableSize
  cf : hd.cf = k.nextCf
  state : hd.state = .rw
  sub : k'.old.Sublist k.demoted
  keep : ∀ x ∈ k.demoted, isRecycled x = false → x ∈ k'.old

theorem makeTable_cases (k : KV) (w : k.WF) : ∃ hd, MadeTable k k.makeTable hd := by
  rw [makeTable_eq]
  cases hp : pickLast isRecycled k.demoted with
  | none => exact ⟨_, rfl, ⟨rfl, rfl, rfl, rfl⟩, rfl, rfl, rfl, List.Sublist.refl _, fun x hx _ => hx⟩
  | some q =>
    obtain ⟨t, rest⟩ := q
    obtain ⟨a, b, hab, rfl, hrec, _⟩ := pickLast_some hp
    have ht : t ∈ k.demoted := by rw [hab]; exact List.mem_append_right a List.mem_cons_self
    have wd := demoted_wf k w
    have bl := wd.blank ht hrec
    refine ⟨_, rfl, ⟨bl.slots, bl.off, bl.inuse, bl.garbage⟩, (wd.old_ok ht).2.alloc, rfl, rfl, ?_, ?_⟩
    · rw [hab]; exact (List.sublist_cons_self t b).append_left a
    · intro x hx hnr
      rw [hab] at hx
      rcases List.mem_cons.mp (List.perm_middle.mem_iff.mp hx) with rfl | hx
      · rw [hrec] at hnr; cases hnr
      · exact hx

theorem makeTable_wf (k : KV) (w : k.WF) : k.makeTable.WF := by
  obtain ⟨hd, mt⟩ := makeTable_cases k w
  have wd := demoted_wf k w
  refine WF.of_tables ?_ (fun t ht => ?_) (fun t ht => ?_)
  · rw [Unique, newestFirst, mt.head]
    exact List.pairwise_cons.mpr ⟨fun b _ => disj_of_nil_left mt.blank.slots, wd.unique.sublist mt.sub⟩
  · rw [mt.head] at ht; cases ht; rw [makeTable_tableSize]; exact ⟨mt.state, mt.blank.ok mt.alloc⟩
  · rw [makeTable_tableSize]; exact wd.old_ok (mt.sub.subset ht)

theorem fork_wf (size : Nat) (idle : Int) : (KV.fork size idle).WF :=
  WF.of_tables (by simp [Unique, newestFirst, fork])
    (fun t ht => by cases ht; exact ⟨rfl, Blank.ok ⟨rfl, rfl, rfl, rfl⟩ rfl⟩) (fun t ht => by cases ht)

theorem empty_wf (size : Nat) (idle : Int) : (KV.empty size idle).WF :=
  WF.of_tables (by simp [Unique, newestFirst, empty]) (fun t ht => by cases ht) (fun t ht => by cases ht)

theorem wf_of_sublist {k k' : KV} (w : k.WF) (hs : k'.tableSize = k.tableSize)
    (hh : ∀ t, k'.head = some t → k.head = some t) (ho : k'.old.Sublist k.old) : k'.WF := by
  refine WF.of_tables ?_ (fun t ht => hs ▸ w.head_ok (hh t ht)) (fun t ht => hs ▸ w.old_ok (ho.subset ht))
  refine w.unique.sublist (List.Sublist.append ?_ ho)
  cases hk : k'.head with
  | none => exact List.nil_sublist _
  | some t => rw [hh t hk]; exact List.Sublist.refl _

def mapAll (k : KV) (g : Table → Table) : KV := { k with head := k.head.map g, old := k.old.map g }

theorem newestFirst_mapAll (k : KV) (g : Table → Table) : (k.mapAll g).newestFirst = k.newestFirst.map g := by
  unfold mapAll newestFirst; cases k.head <;> simp

/-- conditions under which mapping `g` over every table keeps the store invariant -/
structure Stable (g : Table → Table) : Prop where
  state : ∀ t, (g t).state = t.state
  alloc : ∀ t, (g t).alloc = t.alloc
  off : ∀ t, (g t).off = t.off
  nil : ∀ t, t.slots = [] → (g t).slots = []
  none : ∀ t h, t.find h = none → (g t).find h = none
  nodup : ∀ t, (keys t).Nodup → (keys (g t)).Nodup
  acct : ∀ t, (keys t).Nodup → t.inuse = sumSize t.slots → (g t).inuse = sumSize (g t).slots
  fits : ∀ t n, (∀ s ∈ t.slots, s.r.size < n ∧ s.r.key.length < 256) → ∀ s ∈ (g t).slots, s.r.size < n ∧ s.r.key.length < 256
  tot : ∀ t, (keys t).Nodup → t.inuse = sumSize t.slots → t.inuse + t.garbage = t.off →
    (g t).inuse + (g t).garbage = (g t).off
  layout : ∀ t, t.Layout → (g t).Layout

theorem Stable.ok {g : Table → Table} (sg : Stable g) {n : Nat} {t : Table} (ok : TableOK n t) : TableOK n (g t) :=
  ⟨(sg.alloc t).trans ok.alloc, sg.nodup t ok.nodup, sg.acct t ok.nodup ok.acct, sg.fits t n ok.fits,
    sg.tot t ok.nodup ok.acct ok.tot, sg.layout t ok.layout⟩

theorem Stable.retired {g : Table → Table} (sg : Stable g) {t : Table} (r : Retired t) : Retired (g t) := by
  have hrec : isRecycled (g t) = isRecycled t := by simp [isRecycled, sg.state]
  exact ⟨by rw [sg.state]; exact r.notRW, fun h => sg.nil t (r.empty (hrec ▸ h)),
    fun h => by rw [sg.off]; exact r.off (hrec ▸ h)⟩

theorem Stable.disj {g : Table → Table} (sg : Stable g) {a b : Table} (d : Disj a b) : Disj (g a) (g b) :=
  fun h => (d h).imp (sg.none a h) (sg.none b h)

theorem mapAll_wf (k : KV) (w : k.WF) {g : Table → Table} (sg : Stable g) : (k.mapAll g).WF := by
  refine WF.of_tables ?_ (fun t ht => ?_) (fun t ht => ?_)
  · rw [Unique, newestFirst_mapAll, List.pairwise_map]
    exact w.unique.imp sg.disj
  · obtain ⟨x, hx, rfl⟩ := Option.map_eq_some_iff.mp ht
    exact (w.head_ok hx).imp (sg.state x).trans sg.ok
  · obtain ⟨x, hx, rfl⟩ := List.mem_map.mp ht
    exact (w.old_ok hx).imp sg.retired sg.ok

theorem stable_deleteD (h : Nat) : Stable (fun t => t.deleteD h) where
  state t := deleteD_state t h
  alloc t := deleteD_alloc t h
  off t := deleteD_off t h
  nil t ht := List.sublist_nil.mp (ht ▸ deleteD_sublist t h)
  none t g hg := by rw [find_deleteD, hg, ite_self]
  nodup t hn := hn.sublist ((deleteD_sublist t h).map _)
  acct t hn ha := (deleteD_bytes t h hn ha).1
  fits t n hfit s hs := hfit s ((deleteD_sublist t h).subset hs)
  tot t hn ha ht := by rw [(deleteD_bytes t h hn ha).2, deleteD_off]; exact ht
  layout t hl := layout_deleteD t h hl

theorem TableOK.append {n : Nat} {t : Table} (ok : TableOK n t) {h : Nat} (hfree : h ∉ keys t) {r : Rec}
    (hfit : r.size < n ∧ r.key.length < 256) : TableOK n (t.append h r) := by
  refine ⟨ok.alloc, ?_, ?_, ?_, ?_, layout_append t h r ok.layout⟩
  · rw [keys, Table.append, List.map_append]
    exact (List.perm_append_singleton h (keys t)).nodup_iff.mpr (List.nodup_cons.mpr ⟨hfree, ok.nodup⟩)
  · rw [Table.append, sumSize_append, ← ok.acct]; rfl
  · intro s hs
    rcases List.mem_append.mp hs with hs | hs
    · exact ok.fits s hs
    · rw [List.mem_singleton.mp hs]; exact hfit
  · rw [Table.append, Nat.add_right_comm, ok.tot]

/-- a write is a delete, which frees the key, and then an append -/
theorem TableOK.write {n : Nat} {t : Table} (ok : TableOK n t) (h : Nat) (r : Rec)
    (hfit : r.size < n ∧ r.key.length < 256) : TableOK n (t.write h r) :=
  ((stable_deleteD h).ok ok).append (fun hm => find_ne_none_of_mem_keys hm (by rw [find_deleteD, if_pos rfl])) hfit

end KV
end Olric
