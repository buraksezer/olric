/-
  The pipeline model (Cluster/Pipeline.lean) against the same commands issued one at a time: what `Exec` leaves in
  the partitions (`execState_cons`, `execState_append`) and what every future reads (`futures_read_seq`).
-/
import OlricModel.Cluster.Pipeline
namespace Olric.Pipeline

variable {σ κ ρ : Type}

theorem batch_nil (p : Nat) : batch p ([] : List (Nat × κ)) = [] := rfl

theorem batch_append (p : Nat) (a b : List (Nat × κ)) : batch p (a ++ b) = batch p a ++ batch p b := by
  simp [batch, List.filter_append]

theorem batch_cons_same (p : Nat) (c : κ) (q : List (Nat × κ)) : batch p ((p, c) :: q) = c :: batch p q := by
  simp [batch]

theorem batch_cons_other {p x : Nat} {c : κ} {q : List (Nat × κ)} (h : x ≠ p) : batch x ((p, c) :: q) = batch x q := by
  simp [batch, Ne.symm h]

theorem partRun_append (step : σ → κ → σ × ρ) (s : σ) (a b : List κ) :
    partRun step s (a ++ b) =
      ((partRun step (partRun step s a).1 b).1, (partRun step s a).2 ++ (partRun step (partRun step s a).1 b).2) := by
  induction a generalizing s with
  | nil => simp [partRun]
  | cons c cs ih => simp [partRun, ih]

theorem partRun_length (step : σ → κ → σ × ρ) (s : σ) (a : List κ) : (partRun step s a).2.length = a.length := by
  induction a generalizing s with
  | nil => simp [partRun]
  | cons c cs ih => simp [partRun, ih]

theorem execState_nil (step : σ → κ → σ × ρ) (st : Nat → σ) : execState step st [] = st := rfl

theorem execState_cons (step : σ → κ → σ × ρ) (st : Nat → σ) (p : Nat) (c : κ) (q : List (Nat × κ)) :
    execState step st ((p, c) :: q) = execState step (upd st p (step (st p) c).1) q := by
  funext x
  by_cases h : x = p
  · subst h; simp [execState, batch_cons_same, partRun, upd]
  · simp [execState, batch_cons_other h, upd, h]

theorem execState_append (step : σ → κ → σ × ρ) (st : Nat → σ) (a b : List (Nat × κ)) :
    execState step st (a ++ b) = execState step (execState step st a) b := by
  funext x; simp [execState, batch_append, partRun_append]

/-- queued behind `q0`, executed from `st0`: every future reads the reply its command gets when the commands are
    issued one at a time from the state that `q0` leaves -/
theorem futures_read_seq (step : σ → κ → σ × ρ) (st0 : Nat → σ) (q0 cs : List (Nat × κ)) :
    (futures q0 cs).map (futureResult step st0 (q0 ++ cs)) =
      (seqRun step (execState step st0 q0) cs).2.map some := by
  induction cs generalizing q0 with
  | nil => rfl
  | cons pc cs ih =>
    obtain ⟨p, c⟩ := pc
    simp only [futures, add, List.map_cons, seqRun]
    congr 1
    · -- the head: slot (p, |batch p q0|) of the whole run
      simp only [futureResult, execResult, batch_append, batch_cons_same, partRun_append, partRun]
      rw [List.getElem?_append_right (Nat.le_of_eq (partRun_length ..)), partRun_length, Nat.sub_self]
      rfl
    · have := ih (q0 ++ [(p, c)])
      rwa [List.append_assoc, execState_append, execState_cons, execState_nil] at this

theorem futures_index_ge (q0 cs : List (Nat × κ)) : ∀ s ∈ futures q0 cs, (batch s.1 q0).length ≤ s.2 := by
  induction cs generalizing q0 with
  | nil => intro s hs; simp [futures] at hs
  | cons pc cs ih =>
    obtain ⟨p, c⟩ := pc
    intro s hs
    simp only [futures, add, List.mem_cons] at hs
    rcases hs with rfl | hs
    · exact Nat.le_refl _
    · have := ih (q0 ++ [(p, c)]) s hs
      rw [batch_append, List.length_append] at this
      exact Nat.le_trans (Nat.le_add_right _ _) this

theorem futures_nodup (q0 cs : List (Nat × κ)) : (futures q0 cs).Nodup := by
  induction cs generalizing q0 with
  | nil => simp [futures]
  | cons pc cs ih =>
    obtain ⟨p, c⟩ := pc
    simp only [futures, add, List.nodup_cons]
    refine ⟨?_, ih _⟩
    intro hmem
    have := futures_index_ge (q0 ++ [(p, c)]) cs _ hmem
    rw [batch_append, batch_cons_same, batch_nil, List.length_append] at this
    exact Nat.not_succ_le_self _ this

end Olric.Pipeline
