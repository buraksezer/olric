/- One table: what `find` answers after delete / write / touch / updateTTL, how a delete moves the bytes of
   a record from inuse to garbage, and that a write keeps the records laid out one after the other. -/
import OlricModel.Store.Model
namespace Olric

theorem Rec.size_ge (r : Rec) : 29 ≤ r.size := Nat.le_trans (Nat.le_add_right 29 _) (Nat.le_add_right _ _)

namespace Table

theorem find?_filter_ne (l : List Slot) (h h' : Nat) :
    (l.filter (fun x => x.hk != h)).find? (fun s => s.hk == h') =
      if h' = h then none else l.find? (fun s => s.hk == h') := by
  rw [List.find?_filter]
  split
  · subst h'; exact List.find?_eq_none.mpr (fun s _ => by simp)
  · rename_i hh
    congr 1
    funext s
    by_cases e : s.hk = h' <;> simp [e, hh]

theorem filter_ne_of_find_none {l : List Slot} {h : Nat} (hf : l.find? (fun s => s.hk == h) = none) :
    l.filter (fun x => x.hk != h) = l := by
  rw [List.filter_eq_self]
  intro s hs
  simpa using List.find?_eq_none.mp hf s hs

theorem deleteD_slots (t : Table) (h : Nat) : (t.deleteD h).slots = t.slots.filter (fun x => x.hk != h) := by
  unfold deleteD delete
  cases hf : t.find h with
  | none => exact (filter_ne_of_find_none hf).symm
  | some s => rfl

theorem deleteD_sublist (t : Table) (h : Nat) : (t.deleteD h).slots.Sublist t.slots := by
  rw [deleteD_slots]; exact List.filter_sublist

theorem deleteD_state (t : Table) (h : Nat) : (t.deleteD h).state = t.state := by
  unfold deleteD delete; cases t.find h <;> rfl
theorem deleteD_off (t : Table) (h : Nat) : (t.deleteD h).off = t.off := by
  unfold deleteD delete; cases t.find h <;> rfl
theorem deleteD_alloc (t : Table) (h : Nat) : (t.deleteD h).alloc = t.alloc := by
  unfold deleteD delete; cases t.find h <;> rfl
theorem deleteD_cf (t : Table) (h : Nat) : (t.deleteD h).cf = t.cf := by
  unfold deleteD delete; cases t.find h <;> rfl

theorem find_deleteD (t : Table) (h h' : Nat) :
    (t.deleteD h).find h' = if h' = h then none else t.find h' := by
  simp only [find, deleteD_slots]
  exact find?_filter_ne t.slots h h'

theorem deleteD_of_find_none {t : Table} {h : Nat} (hf : t.find h = none) : t.deleteD h = t := by
  simp [deleteD, delete, hf]

theorem delete_of_find_some {t : Table} {h : Nat} {s : Slot} (hf : t.find h = some s) :
    t.delete h = some (t.deleteD h) := by
  simp [deleteD, delete, hf]

theorem deleteD_garbage_ge (t : Table) (h : Nat) : t.garbage ≤ (t.deleteD h).garbage := by
  unfold deleteD delete
  cases t.find h <;> simp

def append (t : Table) (h : Nat) (r : Rec) : Table :=
  { t with slots := t.slots ++ [⟨h, t.off, r⟩], inuse := t.inuse + r.size, off := t.off + r.size }

/-- The success branch that table.Put and table.PutRaw share. -/
def write (t : Table) (h : Nat) (r : Rec) : Table := (t.deleteD h).append h r

theorem putRaw_eq (t : Table) (h : Nat) (r : Rec) :
    t.putRaw h r = if r.size + t.off ≥ t.alloc then .error .noSpace else .ok (t.write h r) := rfl

theorem put_eq (t : Table) (h : Nat) (r : Rec) (now : Int) :
    t.put h r now = if r.key.length ≥ 256 then .error .keyTooLarge else t.putRaw h { r with la := now } := rfl

theorem write_state (t : Table) (h : Nat) (r : Rec) : (t.write h r).state = t.state := deleteD_state t h
theorem write_alloc (t : Table) (h : Nat) (r : Rec) : (t.write h r).alloc = t.alloc := deleteD_alloc t h
theorem write_cf (t : Table) (h : Nat) (r : Rec) : (t.write h r).cf = t.cf := deleteD_cf t h
theorem write_off (t : Table) (h : Nat) (r : Rec) : (t.write h r).off = t.off + r.size :=
  congrArg (· + r.size) (deleteD_off t h)

theorem write_slots (t : Table) (h : Nat) (r : Rec) :
    (t.write h r).slots = t.slots.filter (fun x => x.hk != h) ++ [⟨h, t.off, r⟩] := by
  simp only [write, append, deleteD_slots, deleteD_off]

theorem find_write (t : Table) (h h' : Nat) (r : Rec) :
    (t.write h r).find h' = if h' = h then some ⟨h, t.off, r⟩ else t.find h' := by
  simp only [find, write_slots, List.find?_append, List.find?_singleton, find?_filter_ne]
  by_cases hh : h' = h
  · simp [hh]
  · have : ¬ h = h' := fun e => hh e.symm
    simp [hh, this]

theorem find?_map_hk {g : Slot → Slot} (hg : ∀ s, (g s).hk = s.hk) (l : List Slot) (h : Nat) :
    (l.map g).find? (fun s => s.hk == h) = (l.find? (fun s => s.hk == h)).map g := by
  rw [List.find?_map]
  congr 2
  funext s
  exact congrArg (· == h) (hg s)

theorem upd_slot_hk (h : Nat) (f : Rec → Rec) (s : Slot) :
    (if s.hk == h then { s with r := f s.r } else s : Slot).hk = s.hk := by split <;> rfl

theorem find_touch (t : Table) (h h' : Nat) (now : Int) :
    (t.touch h now).find h' =
      (t.find h').map (fun s => if s.hk == h then { s with r := { s.r with la := now } } else s) :=
  find?_map_hk (upd_slot_hk h fun r => { r with la := now }) t.slots h'

theorem find_updateTTL (t t' : Table) (h h' : Nat) (ttl ts now : Int) (hu : t.updateTTL h ttl ts now = some t') :
    t'.find h' =
      (t.find h').map (fun s => if s.hk == h then { s with r := { s.r with ttl := ttl, ts := ts, la := now } } else s) := by
  unfold updateTTL at hu
  split at hu
  · cases hu
  · cases hu
    exact find?_map_hk (upd_slot_hk h fun r => { r with ttl := ttl, ts := ts, la := now }) t.slots h'

theorem find_hk {t : Table} {h : Nat} {s : Slot} (hf : t.find h = some s) : s.hk = h := by
  have := List.find?_some hf
  exact beq_iff_eq.mp this

theorem deleteD_found {t : Table} {h : Nat} {s : Slot} (hf : t.find h = some s) :
    (t.deleteD h).garbage = t.garbage + s.r.size ∧ (t.deleteD h).slots.length < t.slots.length := by
  refine ⟨by simp [deleteD, delete, hf], ?_⟩
  rw [deleteD_slots]
  exact List.length_filter_lt_length_iff_exists.mpr
    ⟨s, List.mem_of_find?_eq_some hf, by simp [find_hk hf]⟩

theorem filterMap_find_hk (t : Table) (l : List Nat) :
    (l.filterMap t.find).map (·.hk) = l.filter (fun h => (t.find h).isSome) := by
  induction l with
  | nil => rfl
  | cons a l ih =>
    simp only [List.filterMap_cons, List.filter_cons]
    cases hf : t.find a with
    | none => simpa using ih
    | some s => simp [find_hk hf, ih]

theorem find_of_mem_nodup {l : List Slot} (hn : (l.map (·.hk)).Nodup) {s : Slot} (hs : s ∈ l) :
    l.find? (fun x => x.hk == s.hk) = some s := by
  induction l with
  | nil => cases hs
  | cons a l ih =>
    rw [List.map_cons, List.nodup_cons] at hn
    rw [List.find?_cons]
    cases hs with
    | head => rw [beq_self_eq_true]
    | tail _ hs =>
      have ha : (a.hk == s.hk) = false := beq_eq_false_iff_ne.mpr fun e => hn.1 (e ▸ List.mem_map_of_mem hs)
      rw [ha]
      exact ih hn.2 hs

theorem find_eq_none_of_slots_nil {t : Table} {h : Nat} (hs : t.slots = []) : t.find h = none := by
  simp [find, hs]

theorem find_new (size cf h : Nat) : (Table.new size cf).find h = none := find_eq_none_of_slots_nil rfl

def sumSize (l : List Slot) : Nat := (l.map (fun s => s.r.size)).sum

theorem sumSize_cons (a : Slot) (l : List Slot) : sumSize (a :: l) = a.r.size + sumSize l := by
  simp [sumSize]

theorem sumSize_append (a b : List Slot) : sumSize (a ++ b) = sumSize a + sumSize b := by
  simp [sumSize]

theorem sumSize_filter {l : List Slot} {s : Slot} (hn : (l.map (·.hk)).Nodup) (hs : s ∈ l) :
    sumSize (l.filter (fun x => x.hk != s.hk)) + s.r.size = sumSize l := by
  induction l with
  | nil => cases hs
  | cons a l ih =>
    rw [List.map_cons, List.nodup_cons] at hn
    rw [List.filter_cons, sumSize_cons]
    cases hs with
    | head =>
      have hl : ∀ x ∈ l, (x.hk != s.hk) = true := fun x hx => bne_iff_ne.mpr fun e => hn.1 (e ▸ List.mem_map_of_mem hx)
      rw [bne_self_eq_false, if_neg Bool.false_ne_true, List.filter_eq_self.mpr hl]
      exact Nat.add_comm _ _
    | tail _ hs =>
      have ha : (a.hk != s.hk) = true := bne_iff_ne.mpr fun e => hn.1 (e ▸ List.mem_map_of_mem hs)
      rw [if_pos ha, sumSize_cons, Nat.add_assoc, ih hn.2 hs]

theorem deleteD_bytes (t : Table) (h : Nat) (hn : (t.slots.map (·.hk)).Nodup) (ha : t.inuse = sumSize t.slots) :
    (t.deleteD h).inuse = sumSize (t.deleteD h).slots ∧
    (t.deleteD h).inuse + (t.deleteD h).garbage = t.inuse + t.garbage := by
  rw [deleteD_slots]
  unfold deleteD delete
  cases hf : t.find h with
  | none => rw [filter_ne_of_find_none hf]; exact ⟨ha, rfl⟩
  | some s =>
    have hi : t.inuse = sumSize (t.slots.filter (fun x => x.hk != h)) + s.r.size := by
      rw [← find_hk hf, sumSize_filter hn (List.mem_of_find?_eq_some hf), ha]
    show t.inuse - s.r.size = _ ∧ t.inuse - s.r.size + (t.garbage + s.r.size) = _
    rw [hi, Nat.add_sub_cancel]
    exact ⟨rfl, by rw [← Nat.add_assoc, Nat.add_right_comm]⟩

theorem inuse_eq_zero_iff {t : Table} (ha : t.inuse = sumSize t.slots) : t.inuse = 0 ↔ t.slots = [] := by
  refine ⟨fun hz => ?_, fun hs => by rw [ha, hs]; rfl⟩
  cases hs : t.slots with
  | nil => rfl
  | cons a l =>
    rw [hz, hs, sumSize_cons] at ha
    exact absurd (ha ▸ Nat.le_trans a.r.size_ge (Nat.le_add_right _ _)) (by decide)

def Layout (t : Table) : Prop :=
  t.slots.Pairwise (fun a b => a.off + a.r.size ≤ b.off) ∧ ∀ s ∈ t.slots, s.off + s.r.size ≤ t.off

theorem layout_deleteD (t : Table) (h : Nat) (hl : t.Layout) : (t.deleteD h).Layout := by
  rw [Layout, deleteD_off]
  exact ⟨hl.1.sublist (deleteD_sublist t h), fun s hs => hl.2 s ((deleteD_sublist t h).subset hs)⟩

theorem layout_append (t : Table) (h : Nat) (r : Rec) (hl : t.Layout) : (t.append h r).Layout := by
  refine ⟨List.pairwise_append.mpr ⟨hl.1, List.pairwise_singleton _ _, fun a ha b hb => ?_⟩, fun x hx => ?_⟩
  · rw [List.mem_singleton.mp hb]; exact hl.2 a ha
  · rcases List.mem_append.mp hx with hx | hx
    · exact Nat.le_trans (hl.2 x hx) (Nat.le_add_right _ _)
    · rw [List.mem_singleton.mp hx]; exact Nat.le_refl _

end Table
end Olric
