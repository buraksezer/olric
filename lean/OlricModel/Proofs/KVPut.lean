/- kvstore.Put / PutRaw.  Put is PutRaw of the stamped record behind a key-length guard (`put_eq`); the write
   lands in the head of `k` or of `k.makeTable` (`putRaw_eq_commit`).  Hence the step on lookups, the invariant, and
   that `diverge` does not occur. -/
import OlricModel.Proofs.KVWF
namespace Olric
open Table
namespace KV

/-- what a successful table.Put / PutRaw does to a table (`headUpd_write`); `commit_wf` goes through `TableOK.write`
    instead -/
structure HeadUpd (hd hd' : Table) (h : Nat) (s : Slot) : Prop where
  find : ∀ h', hd'.find h' = if h' = h then some s else hd.find h'
  state : hd'.state = hd.state
  alloc : hd'.alloc = hd.alloc
  slots : hd'.slots = hd.slots.filter (fun x => x.hk != h) ++ [s]
  shk : s.hk = h
  inuse : hd'.inuse = (hd.deleteD h).inuse + s.r.size
  garbage : hd'.garbage = (hd.deleteD h).garbage
  off : hd'.off = hd.off + s.r.size
  soff : s.off = hd.off

theorem headUpd_write (t : Table) (h : Nat) (r : Rec) : HeadUpd t (t.write h r) h ⟨h, t.off, r⟩ :=
  ⟨fun h' => find_write t h h' r, write_state t h r, write_alloc t h r, write_slots t h r, rfl, rfl, rfl,
    write_off t h r, rfl⟩

theorem commit_findIn (k : KV) (hd : Table) (h h' : Nat) (r : Rec) (hh : k.head = some hd) :
    findIn (k.commit (hd.write h r) h).newestFirst h' =
      if h' = h then some ⟨h, hd.off, r⟩ else findIn k.newestFirst h' := by
  simp only [commit_newestFirst, newestFirst_of_head hh, findIn_cons, find_write, findIn_map_deleteD]
  by_cases e : h' = h <;> simp [e]

theorem commit_wf (k : KV) (w : k.WF) (hd : Table) (h : Nat) (r : Rec) (hh : k.head = some hd)
    (hfit : r.size < k.tableSize ∧ r.key.length < 256) : (k.commit (hd.write h r) h).WF := by
  have hu := w.unique
  rw [Unique, newestFirst_of_head hh, List.pairwise_cons] at hu
  have sd := stable_deleteD h
  refine WF.of_tables
    (List.pairwise_cons.mpr ⟨List.forall_mem_map.mpr fun x hx g => ?_, List.pairwise_map.mpr (hu.2.imp sd.disj)⟩)
    (fun t ht => by
      cases ht; exact (w.head_ok hh).imp (write_state hd h r).trans (·.write h r hfit))
    (List.forall_mem_map.mpr fun x hx => (w.old_ok hx).imp sd.retired sd.ok)
  -- the new head holds `h` and what the old head held; `h` is gone from every other table
  rw [find_write, find_deleteD]
  by_cases e : g = h
  · simp [e]
  · simp only [e, if_false]; exact hu.1 x hx g

theorem ensureHead_eq (k : KV) : k.ensureHead = if k.head.isSome then k else k.makeTable := by
  unfold ensureHead; cases k.head <;> rfl

theorem ensureHead_head (k : KV) : k.ensureHead.head.isSome = true := by
  rw [ensureHead_eq]; split
  · assumption
  · exact makeTable_head_isSome k

/-- kvstore.PutRaw of a record that fits a table.  Go's retry loop (`for { …; makeTable }`) leaves
    through its first iteration, or through its second after one makeTable; the latter exactly when
    there is no head or the head has no room.  `R` is what the caller needs of the store `k0` the write
    lands in (`k` or `k.makeTable`). -/
theorem putRaw_eq_commit {R : KV → Prop} (k : KV) (w : k.WF) (h : Nat) (r : Rec) (hsz : r.size < k.tableSize)
    (h0 : R k) (hm : (∀ x, k.head = some x → r.size + x.off ≥ x.alloc) → R k.makeTable) :
    ∃ k0 hd, R k0 ∧ k0.WF ∧ k0.head = some hd ∧ r.size + hd.off < hd.alloc ∧
      k.putRaw h r = (k0.commit (hd.write h r) h, .ok) := by
  have hbig : ¬ r.size ≥ k.tableSize := Nat.not_le_of_lt hsz
  obtain ⟨hd2, mt⟩ := makeTable_cases k w
  have hh2 := mt.head
  have hfit2 : ¬ r.size + hd2.off ≥ hd2.alloc := by rw [mt.blank.off, mt.alloc]; exact hbig
  have w2 := makeTable_wf k w
  rw [putRaw, if_neg hbig]
  cases hh : k.head with
  | none =>
    refine ⟨k.makeTable, hd2, hm (fun _ e => nomatch hh.symm.trans e), w2, hh2, Nat.lt_of_not_le hfit2, ?_⟩
    simp only [ensureHead, hh, hh2, Table.putRaw_eq, hfit2, if_false]
  | some hd =>
    by_cases hfit : r.size + hd.off ≥ hd.alloc
    · refine ⟨k.makeTable, hd2, hm (fun x e => Option.some.inj (hh.symm.trans e) ▸ hfit), w2, hh2,
        Nat.lt_of_not_le hfit2, ?_⟩
      simp only [ensureHead, hh, hh2, Table.putRaw_eq, hfit, hfit2, if_true, if_false]
    · refine ⟨k, hd, h0, w, hh, Nat.lt_of_not_le hfit, ?_⟩
      simp only [ensureHead, hh, Table.putRaw_eq, hfit, if_false]

theorem put_eq (k : KV) (h : Nat) (r : Rec) (now : Int) :
    k.put h r now =
      if r.size ≥ k.tableSize then (k, .entryTooLarge)
      else if r.key.length ≥ 256 then (k.ensureHead, .keyTooLarge)
      else k.putRaw h { r with la := now } := by
  obtain ⟨hd, hh⟩ := Option.isSome_iff_exists.mp (ensureHead_head k)
  by_cases hb : r.size ≥ k.tableSize
  · rw [put, if_pos hb, if_pos hb]
  · rw [put, if_neg hb, if_neg hb]
    by_cases hk : r.key.length ≥ 256
    · simp only [hh, Table.put_eq, hk, if_true]
    · have hsz : ({ r with la := now } : Rec).size = r.size := rfl
      obtain ⟨hd2, hh2⟩ := Option.isSome_iff_exists.mp (makeTable_head_isSome k.ensureHead)
      simp only [putRaw, hsz, hb, hh, hh2, Table.put_eq, hk, if_false, Table.putRaw_eq]
      -- table.PutRaw never answers keyTooLarge, the one place where the two loops differ
      by_cases h1 : r.size + hd.off ≥ hd.alloc
      · by_cases h2 : r.size + hd2.off ≥ hd2.alloc <;> simp only [h1, h2, if_true, if_false]
      · simp only [h1, if_false]

theorem putRaw_big {k : KV} {r : Rec} (h : Nat) (hbig : r.size ≥ k.tableSize) : k.putRaw h r = (k, .entryTooLarge) :=
  if_pos hbig

theorem putRaw_spec (k : KV) (w : k.WF) (h : Nat) (r : Rec) (hfit : r.size < k.tableSize ∧ r.key.length < 256) :
    (k.putRaw h r).1.WF ∧ (k.putRaw h r).1.tableSize = k.tableSize ∧ (k.putRaw h r).2 = .ok ∧
    ∀ h', (k.putRaw h r).1.lookup h' = if h' = h then some r else k.lookup h' := by
  obtain ⟨k0, hd, ⟨s0, f0⟩, w0, hh, -, e⟩ := putRaw_eq_commit
    (R := fun k0 => k0.tableSize = k.tableSize ∧ ∀ h', findIn k0.newestFirst h' = findIn k.newestFirst h')
    k w h r hfit.1 ⟨rfl, fun _ => rfl⟩ fun _ => ⟨makeTable_tableSize k, makeTable_findIn k w.recEmpty⟩
  rw [e]
  refine ⟨commit_wf k0 w0 hd h r hh (s0 ▸ hfit), s0, rfl, fun h' => ?_⟩
  rw [lookup, commit_findIn k0 hd h h' r hh, f0]
  exact apply_ite (Option.map Slot.r) _ _ _

theorem ensureHead_spec (k : KV) (w : k.WF) : k.ensureHead.WF ∧ k.ensureHead.tableSize = k.tableSize ∧
    ∀ h, findIn k.ensureHead.newestFirst h = findIn k.newestFirst h := by
  rw [ensureHead_eq]; split
  · exact ⟨w, rfl, fun _ => rfl⟩
  · exact ⟨makeTable_wf k w, makeTable_tableSize k, makeTable_findIn k w.recEmpty⟩

/-- kvstore.Put as a step of the map.  The outcome `diverge` of the model (Go's retry loop allocating
    tables forever) does not occur: the answer is decided by the two sizes. -/
theorem put_spec (k : KV) (w : k.WF) (h : Nat) (r : Rec) (now : Int) :
    (k.put h r now).1.WF ∧ (k.put h r now).1.tableSize = k.tableSize ∧
    (k.put h r now).2 =
      (if r.size ≥ k.tableSize then .entryTooLarge else if r.key.length ≥ 256 then .keyTooLarge else .ok) ∧
    ∀ h', (k.put h r now).1.lookup h' =
      if r.size ≥ k.tableSize ∨ r.key.length ≥ 256 then k.lookup h'
      else if h' = h then some { r with la := now } else k.lookup h' := by
  rw [put_eq]
  by_cases hbig : r.size ≥ k.tableSize
  · rw [if_pos hbig]
    exact ⟨w, rfl, (if_pos hbig).symm, fun h' => (if_pos (Or.inl hbig)).symm⟩
  · rw [if_neg hbig]
    by_cases hk : r.key.length ≥ 256
    · rw [if_pos hk]
      obtain ⟨ew, es, ef⟩ := ensureHead_spec k w
      exact ⟨ew, es, by rw [if_neg hbig, if_pos hk], fun h' => by rw [if_pos (Or.inr hk), lookup, ef]; rfl⟩
    · rw [if_neg hk]
      obtain ⟨pw, ps, pc, pl⟩ := putRaw_spec k w h { r with la := now } ⟨Nat.not_le.mp hbig, Nat.not_le.mp hk⟩
      exact ⟨pw, ps, by rw [pc, if_neg hbig, if_neg hk], fun h' => by rw [pl h', if_neg (not_or.mpr ⟨hbig, hk⟩)]⟩

end KV
end Olric
