/- kvstore.Compaction: one call drains a batch of the first garbage-heavy table into the head (raw
   re-insertions of visible versions) and resets it once empty, or sweeps expired recycled tables; either
   way the invariant and the contents stay. -/
import OlricModel.Proofs.KVPut
namespace Olric
open Table
namespace KV

theorem foldPutRaw_spec (batch : List (Nat × Rec)) (k : KV) (w : k.WF)
    (hsz : ∀ p ∈ batch, p.2.size < k.tableSize ∧ p.2.key.length < 256)
    (hcore : ∀ p ∈ batch, k.absV p.1 = some p.2.core) :
    (batch.foldl (fun k p => (k.putRaw p.1 p.2).1) k).WF ∧
    (batch.foldl (fun k p => (k.putRaw p.1 p.2).1) k).tableSize = k.tableSize ∧
    ∀ h, (batch.foldl (fun k p => (k.putRaw p.1 p.2).1) k).absV h = k.absV h := by
  refine List.foldlRecOn (motive := fun (b : KV) => b.WF ∧ b.tableSize = k.tableSize ∧ ∀ h, b.absV h = k.absV h)
    batch _ ⟨w, rfl, fun _ => rfl⟩ (fun b ⟨wb, sb, ab⟩ p hp => ?_)
  obtain ⟨w1, s1, _, hl⟩ := putRaw_spec b wb p.1 p.2 (sb ▸ hsz p hp)
  exact ⟨w1, s1.trans sb, fun h => (absV_of_same_core hl ((ab p.1).trans (hcore p hp)).symm h).trans (ab h)⟩

theorem reset_slots (t : Table) (now : Int) : (t.reset now).slots = [] := rfl

def resetIf (cf : Nat) (now : Int) (t : Table) : Table :=
  if t.cf == cf && t.state != .recycled && t.inuse == 0 then t.reset now else t

theorem resetDrained_old (k : KV) (cf : Nat) (now : Int) :
    (k.resetDrained cf now).old = k.old.map (resetIf cf now) := rfl

theorem resetDrained_newestFirst (k : KV) (cf : Nat) (now : Int) :
    (k.resetDrained cf now).newestFirst = k.head.toList ++ k.old.map (resetIf cf now) := rfl

theorem resetIf_cases (cf : Nat) (now : Int) (t : Table) :
    resetIf cf now t = t ∨ (resetIf cf now t = t.reset now ∧ t.inuse = 0) := by
  unfold resetIf
  split
  · rename_i hc
    simp only [Bool.and_eq_true, beq_iff_eq] at hc
    exact Or.inr ⟨rfl, hc.2⟩
  · exact Or.inl rfl

theorem resetDrained_spec (k : KV) (w : k.WF) (cf : Nat) (now : Int) :
    (k.resetDrained cf now).WF ∧ (k.resetDrained cf now).tableSize = k.tableSize ∧
    ∀ h, findIn (k.resetDrained cf now).newestFirst h = findIn k.newestFirst h := by
  -- a table with inuse = 0 holds no slot, so resetting it changes no lookup
  have hg : ∀ t ∈ k.old, (∀ h, (resetIf cf now t).find h = t.find h) ∧ Retired (resetIf cf now t) ∧
      TableOK k.tableSize (resetIf cf now t) := by
    intro t ht
    obtain ⟨r, ok⟩ := w.old_ok ht
    rcases resetIf_cases cf now t with e | ⟨e, hz⟩ <;> rw [e]
    · exact ⟨fun _ => rfl, r, ok⟩
    · have hs := (inuse_eq_zero_iff ok.acct).mp hz
      exact ⟨fun h => by simp [find, Table.reset, hs], ⟨by simp [Table.reset], fun _ => rfl, fun _ => rfl⟩,
        Blank.ok ⟨rfl, rfl, rfl, rfl⟩ ok.alloc⟩
  have hnf := resetDrained_newestFirst k cf now
  have hu := List.pairwise_append.mp w.unique
  refine ⟨WF.of_tables ?_ (fun _ => w.head_ok) (List.forall_mem_map.mpr fun x hx => (hg x hx).2), rfl, fun h => ?_⟩
  · rw [Unique, hnf]
    exact List.pairwise_append.mpr ⟨hu.1,
      List.pairwise_map.mpr (hu.2.1.imp_of_mem (fun ha hb d => disj_of_find_eq (hg _ ha).1 (hg _ hb).1 d)),
      fun a ha => List.forall_mem_map.mpr fun x hx => disj_of_find_eq (fun _ => rfl) (hg x hx).1 (hu.2.2 a ha x hx)⟩
  · rw [hnf, newestFirst, findIn_append, findIn_append, findIn_map_congr _ k.old (fun t ht => (hg t ht).1)]

theorem sweep_spec (exp : Table → Bool) (ts : List Table) (n : Nat) (hre : RecEmpty ts) :
    (sweep exp ts n).1.Sublist ts ∧ ∀ h, findIn (sweep exp ts n).1 h = findIn ts h := by
  induction ts with
  | nil => exact ⟨List.Sublist.refl _, fun _ => rfl⟩
  | cons t ts ih =>
    obtain ⟨hs, hf⟩ := ih (fun x hx => hre x (List.mem_cons_of_mem _ hx))
    have keep : (t :: (sweep exp ts n).1).Sublist (t :: ts) ∧
        ∀ h, findIn (t :: (sweep exp ts n).1) h = findIn (t :: ts) h :=
      ⟨hs.cons_cons t, fun h => by simp only [findIn_cons, hf h]⟩
    simp only [sweep]
    by_cases hc : (isRecycled t && exp t) = true
    · rw [if_pos hc]
      by_cases h1 : ((sweep exp ts n).2 == 1) = true
      · rw [if_pos h1]; exact keep
      · -- the table dropped is recycled, hence empty
        rw [if_neg h1]
        have he := hre t List.mem_cons_self (Bool.and_eq_true_iff.mp hc).1
        exact ⟨hs.cons t, fun h => by simp only [findIn_cons, find_eq_none_of_slots_nil he, hf h]⟩
    · rw [if_neg hc]; exact keep

theorem mem_evictBatch {t : Table} {order : List Nat} {now : Int} {p : Nat × Rec} (hpm : p ∈ evictBatch t order now) :
    ∃ s ∈ t.slots, t.find p.1 = some s ∧ p.2 = { s.r with la := now } := by
  simp only [evictBatch, List.mem_map] at hpm
  obtain ⟨s, hs, rfl⟩ := hpm
  obtain ⟨h0, _, hf⟩ := List.mem_filterMap.mp (List.mem_of_mem_take hs)
  exact ⟨s, List.mem_of_find?_eq_some hf, find_hk hf ▸ hf, rfl⟩

theorem evictBatch_fits {k : KV} {t : Table} (w : k.WF) (ht : t ∈ k.newestFirst) (order : List Nat) (now : Int) :
    ∀ p ∈ evictBatch t order now, p.2.size < k.tableSize ∧ p.2.key.length < 256 := by
  intro p hp
  obtain ⟨s, hs, _, e⟩ := mem_evictBatch hp
  rw [e]; exact w.fits t ht s hs

theorem compaction_of_some {k : KV} {t : Table} {rest : List Table} (now : Int) (order : List Nat)
    (hp : pickLast needsCompaction k.old = some (t, rest)) :
    k.compaction now order =
      (((evictBatch t order now).foldl (fun k p => (k.putRaw p.1 p.2).1) k).resetDrained t.cf now, false) := by
  simp only [compaction, hp]

theorem compaction_of_none {k : KV} (now : Int) (order : List Nat)
    (hp : pickLast needsCompaction k.old = none) :
    k.compaction now order = ({ k with old := (sweep (k.isExpiredAt now) k.old k.tables.length).1 }, true) := by
  simp only [compaction, hp]

theorem compaction_spec (k : KV) (w : k.WF) (now : Int) (order : List Nat) :
    (k.compaction now order).1.WF ∧ (k.compaction now order).1.tableSize = k.tableSize ∧
    ∀ h, (k.compaction now order).1.absV h = k.absV h := by
  cases hp : pickLast needsCompaction k.old with
  | some q =>
    obtain ⟨t, rest⟩ := q
    rw [compaction_of_some now order hp]
    have htnf : t ∈ k.newestFirst := mem_of_old (pickLast_mem hp).1
    -- what the batch re-inserts are the visible versions of records of `t`
    obtain ⟨w1, s1, a1⟩ := foldPutRaw_spec (evictBatch t order now) k w (evictBatch_fits w htnf order now)
      (fun p hpm => by
        obtain ⟨s, _, hf, e⟩ := mem_evictBatch hpm
        rw [absV, lookup, findIn_of_mem w.unique htnf hf, e]; rfl)
    obtain ⟨w2, s2, f2⟩ := resetDrained_spec _ w1 t.cf now
    exact ⟨w2, s2.trans s1, fun h => by simp only [absV, lookup, f2 h]; exact a1 h⟩
  | none =>
    rw [compaction_of_none now order hp]
    obtain ⟨hs, hf⟩ := sweep_spec (k.isExpiredAt now) k.old k.tables.length w.recEmpty
    exact ⟨wf_of_sublist w rfl (fun _ e => e) hs, rfl,
      fun h => by simp only [absV, lookup, newestFirst, findIn_append, hf h]⟩

theorem compaction_done_iff (k : KV) (now : Int) (order : List Nat) :
    (k.compaction now order).2 = true ↔ ∀ t ∈ k.old, needsCompaction t = false := by
  rw [← pickLast_eq_none_iff]
  cases hp : pickLast needsCompaction k.old with
  | some q => rw [compaction_of_some now order hp]; simp
  | none => rw [compaction_of_none now order hp]; simp

theorem compaction_done_result {k : KV} (w : k.WF) {now : Int} {order : List Nat}
    (hd : (k.compaction now order).2 = true) : ∀ t ∈ (k.compaction now order).1.old, needsCompaction t = false := by
  have hn := (compaction_done_iff k now order).mp hd
  rw [compaction_of_none now order (pickLast_eq_none_iff.mpr hn)]
  intro t ht
  exact hn t ((sweep_spec (k.isExpiredAt now) k.old k.tables.length w.recEmpty).1.subset ht)

theorem needsCompaction_eq_false (t : Table) :
    needsCompaction t = false ↔ (t.inuse = 0 → t.garbage = 0) ∧ t.garbage * 5 < t.alloc * 2 := by
  -- De Morgan on the two disjuncts; `¬(a ∧ b)` read as `a → ¬b`
  simp only [needsCompaction, Bool.or_eq_false_iff, Bool.and_eq_false_iff, beq_eq_false_iff_ne, decide_eq_false_iff_not,
    Nat.not_le, Nat.not_lt, Nat.le_zero, ne_eq, ← Decidable.imp_iff_not_or]

end KV
end Olric
