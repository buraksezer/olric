/- How the client iterator of Cluster/Iterator.lean combines the owners' pages: `emit` hands out every key once
   (`mem_foldl_emit`, `foldl_emit_nodup`), `schedule` fetches every page of every owner once (`schedule_perm`). -/
import OlricModel.Cluster.Iterator
-- only `emit` compares keys; the statements about `schedule` carry `[DecidableEq α]` along unused
set_option linter.unusedSectionVars false
namespace Olric.Iter

variable {α : Type} [DecidableEq α]

theorem mem_emit (acc page : List α) (x : α) : x ∈ emit acc page ↔ x ∈ acc ∨ x ∈ page := by
  unfold emit
  induction page generalizing acc with
  | nil => simp
  | cons k rest ih =>
    rw [List.foldl_cons, ih, List.mem_cons, ← or_assoc]
    refine or_congr_left ?_
    split
    · exact ⟨Or.inl, fun hx => hx.elim id (· ▸ ‹k ∈ acc›)⟩
    · simp

theorem emit_nodup {acc : List α} (page : List α) (h : acc.Nodup) : (emit acc page).Nodup := by
  refine List.foldlRecOn page _ h fun a ha k _ => ?_
  split
  · exact ha
  · exact (List.perm_append_singleton k a).nodup_iff.mpr (List.nodup_cons.mpr ⟨‹_›, ha⟩)

theorem mem_foldl_emit (ps : List (List α)) (acc : List α) (x : α) :
    x ∈ ps.foldl emit acc ↔ x ∈ acc ∨ ∃ p ∈ ps, x ∈ p := by
  induction ps generalizing acc with
  | nil => simp
  | cons p rest ih => simp [ih, mem_emit, or_assoc]

theorem foldl_emit_nodup (ps : List (List α)) (acc : List α) (h : acc.Nodup) : (ps.foldl emit acc).Nodup :=
  List.foldlRecOn ps emit h fun _ h p _ => emit_nodup p h

/-! An owner that has no page left leaves the route; for the pages still to come and for their number it makes no
    difference whether it is dropped (`tails`) or kept as an empty list (`os.map List.tail`). -/

theorem flatten_tails (os : List (List (List α))) : (tails os).flatten = (os.map List.tail).flatten :=
  List.flatten_filter_not_isEmpty

theorem heads_tails_perm (os : List (List (List α))) (hne : ∀ o ∈ os, o ≠ []) :
    (heads os ++ (tails os).flatten).Perm os.flatten := by
  -- an owner without pages adds nothing on either side
  clear hne
  rw [flatten_tails]
  induction os with
  | nil => exact .nil
  | cons o rest ih =>
    cases o with
    | nil => exact ih
    | cons p ps =>
      simp only [heads, List.filterMap_cons, List.head?_cons, List.map_cons, List.tail_cons, List.flatten_cons,
        List.cons_append]
      exact ((List.perm_append_comm_assoc _ _ _).trans (ih.append_left ps)).cons p

theorem tails_ne (os : List (List (List α))) : ∀ o ∈ tails os, o ≠ [] := by
  intro o h e
  simp [tails, e] at h

theorem total_tails (os : List (List (List α))) (hne : ∀ o ∈ os, o ≠ []) : total (tails os) + os.length = total os := by
  rw [total, ← List.length_flatten, flatten_tails, List.length_flatten]
  induction os with
  | nil => rfl
  | cons o rest ih =>
    have ih' := ih (fun o' h' => hne o' (List.mem_cons_of_mem _ h'))
    cases o with
    | nil => exact absurd rfl (hne [] List.mem_cons_self)
    | cons p ps => simp only [total, List.map_cons, List.tail_cons, List.sum_cons, List.length_cons] at ih' ⊢; omega

/-- the iterator fetches every page of every owner exactly once, and stops -/
theorem schedule_perm (f : Nat) (os : List (List (List α))) (hne : ∀ o ∈ os, o ≠ []) (hf : total os < f) :
    (schedule f os).Perm os.flatten := by
  induction f generalizing os with
  | zero => exact absurd hf (Nat.not_lt_zero _)
  | succ f ih =>
    unfold schedule
    split
    · rename_i he; rw [List.isEmpty_iff.mp he]; exact .nil
    · rename_i he
      -- a round fetches one page from every owner on a non-empty route: fewer pages remain
      have hlen : 0 < os.length := List.length_pos_iff.mpr (mt List.isEmpty_iff.mpr he)
      have hlt : total (tails os) < total os := total_tails os hne ▸ Nat.lt_add_of_pos_right hlen
      have := ih (tails os) (tails_ne os) (Nat.lt_of_lt_of_le hlt (Nat.le_of_lt_succ hf))
      exact (List.Perm.append_left (heads os) this).trans (heads_tails_perm os hne)

end Olric.Iter
