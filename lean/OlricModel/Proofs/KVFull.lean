/- "A retired table is nearly full": the invariant behind the storage bound of C20.

   A table leaves the head position only when an insert did not fit (table.Put's guard
   `size + offset ≥ allocated`), so with every entry of the workload at most `E` bytes long every
   table behind the head either has at most `E` bytes of room left or is empty (recycled, or
   drained and about to be).  Kept by every store operation, compaction included. -/
import OlricModel.Proofs.KVInv
namespace Olric
open Table
namespace KV

def NearFull (E : Nat) (t : Table) : Prop := t.off + E ≥ t.alloc ∨ t.slots = []

structure Churn (E : Nat) (k : KV) : Prop where
  full : ∀ t ∈ k.old, NearFull E t
  sizes : ∀ t ∈ k.newestFirst, ∀ s ∈ t.slots, s.r.size ≤ E

theorem churn_fork (E size : Nat) (idle : Int) : Churn E (KV.fork size idle) :=
  ⟨fun t ht => by simp [fork] at ht, fun t ht s hs => by
    simp [fork, newestFirst] at ht; subst ht; simp [Table.new] at hs⟩

theorem churn_empty (E size : Nat) (idle : Int) : Churn E (KV.empty size idle) :=
  ⟨fun t ht => by simp [KV.empty] at ht, fun t ht => by simp [KV.empty, newestFirst] at ht⟩

theorem churn_mapAll {E : Nat} {k : KV} (w : k.WF) (c : Churn E k) {g : Table → Table} (sg : Stable g) :
    Churn E (k.mapAll g) := by
  refine ⟨List.forall_mem_map.mpr fun x hx => ?_, ?_⟩
  · exact (c.full x hx).imp (fun h => by rw [sg.off, sg.alloc]; exact h) (sg.nil x)
  · rw [newestFirst_mapAll]
    -- `Stable.fits` speaks of every bound on the sizes: take `E + 1`
    exact List.forall_mem_map.mpr fun x hx s hs => Nat.le_of_lt_succ (sg.fits x (E + 1)
      (fun s hs => ⟨Nat.lt_succ_of_le (c.sizes x hx s hs), (w.fits x hx s hs).2⟩) s hs).1

theorem churn_invariant (E : Nat) : Invariant (fun r => r.size ≤ E) (Churn E) where
  stored k c t ht s hs _ := c.sizes t ht s hs
  mapAll k g sg _ w c := churn_mapAll w c sg
  makeTable k r w c hr hfull := by
    obtain ⟨hd, mt⟩ := makeTable_cases k w
    have hold : ∀ t ∈ k.makeTable.old, NearFull E t ∧ ∀ s ∈ t.slots, s.r.size ≤ E := by
      intro t ht
      rcases mem_demoted (mt.sub.subset ht) with h | ⟨x, hx, rfl⟩
      · exact ⟨c.full t h, c.sizes t (mem_of_old h)⟩
      · exact ⟨Or.inl (Nat.add_comm E x.off ▸ Nat.le_trans (hfull x hx) (Nat.add_le_add_right hr _)),
          c.sizes x (mem_of_head hx)⟩
    refine ⟨fun x hx => (hold x hx).1, ?_⟩
    rw [newestFirst_of_head mt.head]
    refine List.forall_mem_cons.mpr ⟨fun s hs => ?_, fun x hx => (hold x hx).2⟩
    rw [mt.blank.slots] at hs; cases hs
  commit k hd h r w c hh hr _ := by
    -- behind the new head the store is `k.mapAll (·.deleteD h)`
    have c' := churn_mapAll w c (stable_deleteD h)
    refine ⟨c'.full, List.forall_mem_cons.mpr ⟨fun s hs => ?_, fun t ht => c'.sizes t (mem_of_old ht)⟩⟩
    rw [write_slots, List.mem_append, List.mem_singleton] at hs
    rcases hs with hs | rfl
    · exact c.sizes hd (mem_of_head hh) s (List.mem_filter.mp hs).1
    · exact hr
  resetDrained k cf now _ c := by
    have hg : ∀ x ∈ k.old, NearFull E (resetIf cf now x) ∧ ∀ s ∈ (resetIf cf now x).slots, s.r.size ≤ E := by
      intro x hx
      rcases resetIf_cases cf now x with e | ⟨e, _⟩ <;> rw [e]
      · exact ⟨c.full x hx, c.sizes x (mem_of_old hx)⟩
      · exact ⟨Or.inr rfl, fun s hs => nomatch hs⟩
    refine ⟨List.forall_mem_map.mpr fun x hx => (hg x hx).1, ?_⟩
    rw [resetDrained_newestFirst]
    exact List.forall_mem_append.mpr
      ⟨fun t ht => c.sizes t (List.mem_append_left _ ht), List.forall_mem_map.mpr fun x hx => (hg x hx).2⟩
  dropOld k old' hs _ c :=
    ⟨fun t ht => c.full t (hs.subset ht), fun t ht => c.sizes t (((List.Sublist.refl _).append hs).subset ht)⟩

end KV
end Olric
