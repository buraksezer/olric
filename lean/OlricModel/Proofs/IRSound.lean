/- Soundness of the parser checker: `safe p = true` implies that no argument vector makes `p` index or
   slice out of range, and every option loop terminates. Core-only. -/
import OlricModel.Proto.IR
namespace Olric.IR

/-- `a` describes `e`: every variable below `NV` has a length its abstract value admits, and no variable is longer than `N` -/
structure Sat (a : AEnv) (e : Env) (N : Nat) : Prop where
  vals : ∀ v, v < NV → (a.vals v).sat (e v).length
  bound : ∀ v, (e v).length ≤ N

/-- `L` is the length the loop variable had at the head of the current iteration; since then it has
    shrunk by at least `a.shr` -/
def InLoop (lv : Option Var) (a : AEnv) (e : Env) (L : Nat) : Prop :=
  match lv with
  | none => True
  | some l => (e l).length + a.shr ≤ L

/-- inside a loop over `l` nothing but `l` has changed between `e` and `e'`; outside a loop it says nothing -/
def Frame (lv : Option Var) (e e' : Env) : Prop :=
  match lv with
  | none => True
  | some l => ∀ y, y ≠ l → e' y = e y

/-- What a checked statement run from `e` may end in.  Falling through, the state satisfies the checker's
    result `r`; `continue` only after the loop variable got shorter than `L`; inside a loop nothing but the loop
    variable changes (`Frame`); all lengths stay below `N`, which the budget exceeds. -/
def Good (lv : Option Var) (r : Option AEnv) (e : Env) (N L : Nat) : Res → Prop
  | .next e' => ∃ a', r = some a' ∧ Sat a' e' N ∧ InLoop lv a' e' L ∧ Frame lv e e'
  | .cont e' => ∃ l, lv = some l ∧ (e' l).length + 1 ≤ L ∧ (∀ v, (e' v).length ≤ N) ∧ Frame lv e e'
  | .retOk => True
  | .retErr => True
  | .panic => False
  | .spin => False

theorem Env.set_same (e : Env) (v : Var) (x : List Tok) : e.set v x v = x := if_pos rfl

theorem Env.set_other (e : Env) {v y : Var} (x : List Tok) (h : y ≠ v) : e.set v x y = e y := if_neg h

theorem Frame.refl (lv : Option Var) (e : Env) : Frame lv e e := by
  cases lv with
  | none => trivial
  | some l => exact fun _ _ => rfl

theorem Frame.trans {lv : Option Var} {e1 e2 e3 : Env} (h1 : Frame lv e1 e2) (h2 : Frame lv e2 e3) : Frame lv e1 e3 := by
  cases lv with
  | none => trivial
  | some l => intro y hy; rw [h2 y hy, h1 y hy]

theorem AVal.sat.not_empty {a : AVal} {n : Nat} (h : a.sat n) : a.empty = false := by
  obtain ⟨lo, hi⟩ := a
  cases hi with
  | none => rfl
  | some h' => exact decide_eq_false (Nat.not_lt.2 (Nat.le_trans h.1 h.2))

theorem AVal.sat.cap {a : AVal} {len m lo : Nat} (h : a.sat len) (hlo : lo ≤ len) (hm : len ≤ m) :
    AVal.sat ⟨lo, some (match a.hi with | some h => min h m | none => m)⟩ len := by
  refine ⟨hlo, ?_⟩
  cases hh : a.hi with
  | none => exact hm
  | some x => have := h.2; rw [hh] at this; exact Nat.le_min.2 ⟨this, hm⟩

theorem AVal.sat.sub {a : AVal} {n : Nat} (h : a.sat n) (k : Nat) :
    AVal.sat ⟨a.lo - k, a.hi.map (· - k)⟩ (n - k) := by
  refine ⟨Nat.sub_le_sub_right h.1 k, ?_⟩
  cases hh : a.hi with
  | none => trivial
  | some x => have := h.2; rw [hh] at this; exact Nat.sub_le_sub_right this k

theorem AVal.sat.join_left {a : AVal} {n : Nat} (h : a.sat n) (b : AVal) : (a.join b).sat n := by
  refine ⟨Nat.le_trans (Nat.min_le_left _ _) h.1, ?_⟩
  obtain ⟨_, ahi⟩ := a
  obtain ⟨_, bhi⟩ := b
  cases ahi <;> cases bhi <;> first | trivial | exact Nat.le_trans h.2 (Nat.le_max_left _ _)

theorem AVal.sat.join_right {b : AVal} {n : Nat} (h : b.sat n) (a : AVal) : (a.join b).sat n := by
  refine ⟨Nat.le_trans (Nat.min_le_right _ _) h.1, ?_⟩
  obtain ⟨_, ahi⟩ := a
  obtain ⟨_, bhi⟩ := b
  cases ahi <;> cases bhi <;> first | trivial | exact Nat.le_trans h.2 (Nat.le_max_right _ _)

theorem neg_eval {c : Cmp} {a b : Nat} (h : c.eval a b = false) : c.neg.eval a b = true := by
  cases c <;> simpa [Cmp.eval, Cmp.neg] using h

/-- `lt`, `le`, `eq` cut the upper bound (`cap`); `ne`, `ge`, `gt` raise the lower one and keep the upper -/
theorem refine_sound {a : AVal} {len : Nat} (hs : a.sat len) {c : Cmp} {n : Nat} (hc : c.eval len n = true) :
    (a.refine c n).sat len := by
  have h1 := hs.1
  cases c with
  | lt => exact hs.cap h1 (Nat.le_sub_one_of_lt (of_decide_eq_true hc))
  | le => exact hs.cap h1 (of_decide_eq_true hc)
  | eq => cases eq_of_beq hc; exact hs.cap (Nat.max_le.2 ⟨h1, Nat.le_refl _⟩) (Nat.le_refl _)
  | ne =>
    refine ⟨?_, hs.2⟩
    show (if a.lo = n then n + 1 else a.lo) ≤ len
    split
    · rename_i h; exact Nat.lt_of_le_of_ne (h ▸ h1) (Ne.symm (bne_iff_ne.1 hc))
    · exact h1
  | ge => exact ⟨Nat.max_le.2 ⟨h1, of_decide_eq_true hc⟩, hs.2⟩
  | gt => exact ⟨Nat.max_le.2 ⟨h1, of_decide_eq_true hc⟩, hs.2⟩

section
variable {lv : Option Var} {a : AEnv} {e e' : Env} {N L : Nat} {r : Option AEnv} {res : Res}

/- `¬ v ≥ NV`, `¬ lo ≤ i`: the checker's guards as `Option.ite_none_left_eq_some` hands them over -/
theorem Sat.lo_le (hs : Sat a e N) {v : Var} (hv : ¬ v ≥ NV) : (a.vals v).lo ≤ (e v).length :=
  (hs.vals v (Nat.lt_of_not_ge hv)).1

theorem Sat.tok (hs : Sat a e N) {v : Var} {i : Nat} (hv : ¬ v ≥ NV) (hi : ¬ (a.vals v).lo ≤ i) :
    ∃ t, (e v)[i]? = some t :=
  ⟨_, List.getElem?_eq_getElem (Nat.lt_of_lt_of_le (Nat.lt_of_not_ge hi) (hs.lo_le hv))⟩

/-- Every change the checker makes to an abstract state has this shape: a branch refines `v` (`e' = e`),
    a re-slice assigns it, the head and the exit of a loop forget and reset it. -/
theorem Sat.update (hs : Sat a e N) {v : Var} (hfr : ∀ y, y ≠ v → e' y = e y)
    {x : AVal} (hx : x.sat (e' v).length) (hb : (e' v).length ≤ N) (shr : Nat) :
    Sat ⟨fun y => if y = v then x else a.vals y, shr⟩ e' N := by
  refine ⟨fun y hy => ?_, fun y => ?_⟩
  · show (if y = v then x else a.vals y).sat (e' y).length
    split
    · rename_i h; rw [h]; exact hx
    · rename_i h; rw [hfr y h]; exact hs.vals y hy
  · by_cases h : y = v
    · rw [h]; exact hb
    · rw [hfr y h]; exact hs.bound y

theorem InLoop.of_shr {b : AEnv} (h : InLoop lv a e L) (hab : b.shr ≤ a.shr) : InLoop lv b e L := by
  cases lv with
  | none => trivial
  | some l => exact Nat.le_trans (Nat.add_le_add_left hab _) h

theorem refineBranch_sound {v : Var} (hv : ¬ v ≥ NV) (hs : Sat a e N) (hl : InLoop lv a e L) {c : Cmp} {n : Nat}
    (hc : c.eval (e v).length n = true) :
    ∃ a', refineBranch a v c n = some a' ∧ Sat a' e N ∧ InLoop lv a' e L := by
  have hr := refine_sound (hs.vals v (Nat.lt_of_not_ge hv)) hc
  have h0 : ¬ (c = .lt ∧ n = 0) := fun ⟨h1, h2⟩ => by
    subst h1 h2
    have : (e v).length < 0 := of_decide_eq_true hc
    exact Nat.not_lt_zero _ this
  refine ⟨a.setVal v ((a.vals v).refine c n), ?_, hs.update (fun _ _ => rfl) hr (hs.bound v) _, hl.of_shr (Nat.le_refl _)⟩
  simp only [refineBranch, h0, if_false, hr.not_empty, Bool.false_eq_true]

/-- `Below x r`: what falls through under `x` falls through under `r`, which claims no more about it -/
def Below (x r : Option AEnv) : Prop :=
  ∀ a, x = some a → ∃ b, r = some b ∧ (∀ v n, (a.vals v).sat n → (b.vals v).sat n) ∧ b.shr ≤ a.shr

theorem Below.refl (x : Option AEnv) : Below x x := fun a h => ⟨a, h, fun _ _ h => h, Nat.le_refl _⟩

theorem joinR_below {r1 r2 : ARes} (hj : joinR r1 r2 = some r) :
    ∃ x y, r1 = some x ∧ r2 = some y ∧ Below x r ∧ Below y r := by
  have hnone : ∀ r : Option AEnv, Below none r := fun _ _ h => nomatch h
  match r1, r2, hj with
  | some none, some y, hj => cases hj; exact ⟨_, _, rfl, rfl, hnone _, .refl _⟩
  | some (some a), some none, hj => cases hj; exact ⟨_, _, rfl, rfl, .refl _, hnone _⟩
  | some (some a), some (some b), hj =>
    cases hj
    refine ⟨_, _, rfl, rfl, fun _ h => ?_, fun _ h => ?_⟩ <;> cases h
    · exact ⟨_, rfl, fun v _ h => h.join_left _, Nat.min_le_left _ _⟩
    · exact ⟨_, rfl, fun v _ h => h.join_right _, Nat.min_le_right _ _⟩

theorem Good.below {x : Option AEnv} (hg : Good lv x e N L res) (hle : Below x r) : Good lv r e N L res := by
  cases res with
  | next e' =>
    obtain ⟨a', ha, hs, hl, hf⟩ := hg
    obtain ⟨b, hb, hv, hsh⟩ := hle a' ha
    exact ⟨b, hb, ⟨fun v hv' => hv v _ (hs.vals v hv'), hs.bound⟩, hl.of_shr hsh, hf⟩
  | _ => exact hg

theorem Good.frame (hg : Good lv r e' N L res) (hfr : Frame lv e e') : Good lv r e N L res := by
  cases res with
  | next e'' => obtain ⟨a', ha, hs, hl, hf⟩ := hg; exact ⟨a', ha, hs, hl, Frame.trans hfr hf⟩
  | cont e'' => obtain ⟨l, h0, h1, h2, hf⟩ := hg; exact ⟨l, h0, h1, h2, Frame.trans hfr hf⟩
  | _ => exact hg

/-- the `match` is what `execB` unfolds to on `cons`, with `k` the rest of the block -/
theorem Good.seq {r1 : Option AEnv} (k : Env → Res) (hg : Good lv r1 e N L res)
    (hk : ∀ a' e', r1 = some a' → Sat a' e' N → InLoop lv a' e' L → Good lv r e' N L (k e')) :
    Good lv r e N L (match (generalizing := false) res with | .next e' => k e' | r => r) := by
  cases res with
  | next e' => obtain ⟨a', ha, hs, hl, hf⟩ := hg; exact (hk a' e' ha hs hl).frame hf
  | _ => exact hg

/-- the loop rule.  Head of every iteration: `v` non-empty, the other variables as before the loop.  A body that
    ends an iteration only after `v` has shrunk (`shr ≠ 0`) is run at most `len v` times, so a budget above
    every length is never exhausted.  `e` is the state at the loop's entry, against which the result is framed; `e'` the
    state at the head of the current iteration; `n` the budget left. -/
theorem loop_sound {step : Env → Res} {v : Var} {rb : Option AEnv} (hs : Sat a e N)
    (hshr : ∀ out, rb = some out → out.shr ≠ 0)
    (hbody : ∀ e', Sat ⟨fun y => if y = v then ⟨1, none⟩ else a.vals y, 0⟩ e' N →
      Good (some v) rb e' N (e' v).length (step e')) :
    ∀ n e', Frame (some v) e e' → (∀ y, (e' y).length ≤ N) → (e' v).length ≤ n →
      Good none (some (a.setVal v ⟨0, some 0⟩)) e N L (iter step v e' n) := by
  have hdone : ∀ e', Frame (some v) e e' → (∀ y, (e' y).length ≤ N) → (e' v).length = 0 →
      Good none (some (a.setVal v ⟨0, some 0⟩)) e N L (.next e') := fun e' hfr hb h0 =>
    ⟨_, rfl, hs.update hfr ⟨Nat.zero_le _, Nat.le_of_eq h0⟩ (hb v) _, trivial, trivial⟩
  intro n
  induction n with
  | zero => intro e' hfr hb hn; rw [iter, if_pos (Nat.le_zero.1 hn)]; exact hdone e' hfr hb (Nat.le_zero.1 hn)
  | succ n ih =>
    intro e' hfr hb hn
    rw [iter]
    split
    · rename_i h0; exact hdone e' hfr hb h0
    · rename_i h0
      have hg := hbody e' (hs.update (x := ⟨1, none⟩) hfr ⟨Nat.pos_of_ne_zero h0, trivial⟩ (hb v) 0)
      -- either way the iteration ends with `v` shorter than it began, so `n` suffices for the rest
      have hn' : ∀ {m}, m < (e' v).length → m ≤ n := fun h => Nat.le_of_lt_succ (Nat.lt_of_lt_of_le h hn)
      revert hg
      cases step e' with
      | next e'' =>
        intro ⟨a', ha', hs', hl', hfr'⟩
        exact ih e'' (Frame.trans hfr hfr') hs'.bound
          (hn' (Nat.lt_of_lt_of_le (Nat.lt_add_of_pos_right (Nat.pos_of_ne_zero (hshr a' ha'))) hl'))
      | cont e'' =>
        intro ⟨l, hl0, hlen, hb', hfr'⟩
        cases hl0
        exact ih e'' (Frame.trans hfr hfr') hb' (hn' hlen)
      | _ => exact id

end

mutual
  theorem chkS_sound (ok : NumOk) : (s : Stmt) → ∀ (lv : Option Var) (a : AEnv) (e : Env) (f N L : Nat) (r : Option AEnv),
      chkS lv s a = some r → Sat a e N → InLoop lv a e L → N < f → Good lv r e N L (execS ok s e f) :=
    fun s lv a e f N L r hc hs hl hf => by
    cases s with
    | ifLen v c n thn els =>
      simp only [chkS, Option.ite_none_left_eq_some] at hc
      obtain ⟨hv, hc⟩ := hc
      obtain ⟨x, y, hx, hy, lx, ly⟩ := joinR_below hc
      simp only [execS]
      split
      · rename_i hcond
        obtain ⟨a', ha', hs', hl'⟩ := refineBranch_sound hv hs hl hcond
        rw [ha'] at hx
        exact (chkB_sound ok thn lv a' e f N L x hx hs' hl' hf).below lx
      · rename_i hcond
        obtain ⟨a', ha', hs', hl'⟩ := refineBranch_sound hv hs hl (neg_eval (Bool.eq_false_iff.2 hcond))
        rw [ha'] at hy
        exact (chkB_sound ok els lv a' e f N L y hy hs' hl' hf).below ly
    | ifTok v i lit thn els =>
      simp only [chkS, Option.ite_none_left_eq_some] at hc
      obtain ⟨hv, hi, hc⟩ := hc
      obtain ⟨x, y, hx, hy, lx, ly⟩ := joinR_below hc
      obtain ⟨t, ht⟩ := hs.tok hv hi
      simp only [execS, ht]
      split
      · exact (chkB_sound ok thn lv a e f N L x hx hs hl hf).below lx
      · exact (chkB_sound ok els lv a e f N L y hy hs hl hf).below ly
    | index v i =>
      simp only [chkS, Option.ite_none_left_eq_some, Option.some.injEq] at hc
      obtain ⟨hv, hi, rfl⟩ := hc
      have : i < (e v).length := Nat.lt_of_lt_of_le (Nat.lt_of_not_ge hi) (hs.lo_le hv)
      simp only [execS, this, if_true]
      exact ⟨a, rfl, hs, hl, Frame.refl lv e⟩
    | slice dst v k =>
      simp only [chkS, Option.ite_none_left_eq_some, not_or] at hc
      obtain ⟨⟨hv, hd⟩, hk, hc⟩ := hc
      have hlen : k ≤ (e v).length := Nat.le_trans (Nat.le_of_not_lt hk) (hs.lo_le hv)
      simp only [execS, hlen, if_true]
      have hsat := hs.update (v := dst) (e' := e.set dst ((e v).drop k)) (fun _ h => e.set_other _ h)
        (by rw [Env.set_same, List.length_drop]; exact (hs.vals v (Nat.lt_of_not_ge hv)).sub k)
        (by rw [Env.set_same, List.length_drop]; exact Nat.le_trans (Nat.sub_le _ _) (hs.bound v))
      cases lv with
      | none => cases hc; exact ⟨_, rfl, hsat _, trivial, trivial⟩
      | some l =>
        -- inside a loop the loop variable is re-sliced in place, and `shr` records by how much
        simp only [Option.ite_none_right_eq_some, Option.some.injEq] at hc
        obtain ⟨⟨rfl, rfl⟩, rfl⟩ := hc
        refine ⟨_, rfl, hsat _, ?_, fun _ h => e.set_other _ h⟩
        simp only [InLoop, Env.set_same, List.length_drop] at hl ⊢
        rw [Nat.add_comm a.shr, ← Nat.add_assoc, Nat.sub_add_cancel hlen]
        exact hl
    | parse v i kind =>
      simp only [chkS, Option.ite_none_left_eq_some, Option.some.injEq] at hc
      obtain ⟨hv, hi, rfl⟩ := hc
      obtain ⟨t, ht⟩ := hs.tok hv hi
      simp only [execS, ht]
      split
      · exact ⟨a, rfl, hs, hl, Frame.refl lv e⟩
      · trivial
    | switchTok v i cases dflt =>
      simp only [chkS, Option.ite_none_left_eq_some] at hc
      obtain ⟨hv, hi, hc⟩ := hc
      obtain ⟨x, y, hx, hy, lx, ly⟩ := joinR_below hc
      obtain ⟨t, ht⟩ := hs.tok hv hi
      simp only [execS, ht]
      have hcs := chkC_sound ok cases lv a e f N L x (upper t) hx hs hl hf
      split
      · rename_i res hr; rw [hr] at hcs; exact Good.below hcs lx
      · exact (chkB_sound ok dflt lv a e f N L y hy hs hl hf).below ly
    | loop v body =>
      simp only [chkS] at hc
      cases lv with
      | some _ => cases hc
      | none =>
        simp only [Option.ite_none_left_eq_some] at hc
        obtain ⟨hv, hc⟩ := hc
        -- the loop rule, started at the entry state with the whole budget `f`
        have hrun := fun rb hb hshr => loop_sound (L := L) hs hshr
          (fun e' hs' => chkB_sound ok body (some v) _ e' f N _ rb hb hs' (Nat.le_refl _) hf)
          f e (fun _ _ => rfl) hs.bound (Nat.le_of_lt (Nat.lt_of_le_of_lt (hs.bound v) hf))
        simp only [execS]
        split at hc
        · cases hc
        · rename_i hb; cases hc; exact hrun none hb (fun _ h => nomatch h)
        · rename_i out hb
          simp only [Option.ite_none_left_eq_some, Option.some.injEq] at hc
          obtain ⟨hsh, rfl⟩ := hc
          exact hrun (some out) hb (fun _ h => by cases h; exact hsh)
    | rangeTail v k =>
      simp only [chkS, Option.ite_none_left_eq_some, Option.some.injEq] at hc
      obtain ⟨hv, hk, rfl⟩ := hc
      have : k ≤ (e v).length := Nat.le_trans (Nat.le_of_not_lt hk) (hs.lo_le hv)
      simp only [execS, this, if_true]
      exact ⟨a, rfl, hs, hl, Frame.refl lv e⟩
    | ret b =>
      simp only [execS]
      cases b <;> trivial
    | cont =>
      simp only [chkS] at hc
      cases lv with
      | none => cases hc
      | some l =>
        simp only [Option.ite_none_left_eq_some] at hc
        exact ⟨l, rfl, Nat.le_trans (Nat.add_le_add_left (Nat.pos_of_ne_zero hc.1) _) hl, hs.bound, Frame.refl _ e⟩
  theorem chkB_sound (ok : NumOk) : (b : Block) → ∀ (lv : Option Var) (a : AEnv) (e : Env) (f N L : Nat) (r : Option AEnv),
      chkB lv b a = some r → Sat a e N → InLoop lv a e L → N < f → Good lv r e N L (execB ok b e f) :=
    fun b lv a e f N L r hc hs hl hf => by
    cases b with
    | nil =>
      cases hc
      exact ⟨a, rfl, hs, hl, Frame.refl lv e⟩
    | cons s b =>
      simp only [chkB] at hc
      cases h1 : chkS lv s a with
      | none => rw [h1] at hc; cases hc
      | some r1 =>
        simp only [execB]
        refine (chkS_sound ok s lv a e f N L r1 h1 hs hl hf).seq (fun e' => execB ok b e' f) ?_
        intro a' e' ha' hs' hl'
        rw [h1, ha'] at hc
        exact chkB_sound ok b lv a' e' f N L r hc hs' hl' hf
  theorem chkC_sound (ok : NumOk) : (cs : Cases) → ∀ (lv : Option Var) (a : AEnv) (e : Env) (f N L : Nat) (r : Option AEnv) (t : Tok),
      chkC lv cs a = some r → Sat a e N → InLoop lv a e L → N < f →
      match execC ok cs t e f with
      | some res => Good lv r e N L res
      | none => True :=
    fun cs lv a e f N L r t hc hs hl hf => by
    cases cs with
    | nil => trivial
    | cons lit b rest =>
      simp only [chkC] at hc
      obtain ⟨x, y, hx, hy, lx, ly⟩ := joinR_below hc
      simp only [execC]
      by_cases heq : t = lit
      · rw [if_pos heq]; exact (chkB_sound ok b lv a e f N L x hx hs hl hf).below lx
      · rw [if_neg heq]
        have := chkC_sound ok rest lv a e f N L y t hy hs hl hf
        split
        · rename_i res hr; rw [hr] at this; exact Good.below this ly
        · trivial
end

/-- **Soundness of the checker.**  If `safe p` then for every argument vector of every length (with
    the command name in Args[0]) and every behaviour of the number parsers, running `p` never indexes
    or slices out of range (no Go panic) and never exhausts the iteration budget `len(args)+1`
    (every option loop terminates): it returns a value or an error. -/
theorem safe_sound (p : Block) (hsafe : safe p = true) (ok : NumOk) (args : List Tok) (hargs : 1 ≤ args.length) :
    match run ok p args with
    | .retOk => True
    | .retErr => True
    | .next _ => True
    | _ => False := by
  obtain ⟨r, hc⟩ := Option.isSome_iff_exists.1 hsafe
  -- `init` and the first environment: every variable empty, then `Args` put in place
  have hsat : Sat init (fun v => if v = 0 then args else []) args.length :=
    Sat.update (a := ⟨fun _ => ⟨0, some 0⟩, 0⟩) (e := fun _ => []) (v := 0)
      ⟨fun _ _ => ⟨Nat.le_refl _, Nat.le_refl _⟩, fun _ => Nat.zero_le _⟩ (fun _ h => if_neg h) ⟨hargs, trivial⟩ (Nat.le_refl _) 0
  have := chkB_sound ok p none init _ (args.length + 1) args.length 0 r hc hsat trivial (Nat.lt_succ_self _)
  unfold run
  cases hr : execB ok p (fun v => if v = 0 then args else []) (args.length + 1) with
  | cont e' => rw [hr] at this; obtain ⟨l, h0, _⟩ := this; cases h0
  | panic | spin => rw [hr] at this; exact this
  | _ => trivial

end Olric.IR
