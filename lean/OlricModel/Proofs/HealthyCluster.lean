/-
  The healthy, mirrored cluster: stable routing (no previous owner listed), every backup owner reachable
  (`allReach`), quorums the listed owners can meet (`Healthy`), and every backup copy of the key equal to the
  owner's (`Mirror`, which C04 proves is maintained).  There the operations on a key read and write one thing,
  the owner's copy (`abs`); through these lemmas C07 (atomics), C08 (locks) and C10 (eviction) reduce the
  cluster model to a single stored entry.
-/
import OlricModel.Proofs.DMapLemmas

namespace Olric.C04
open Olric Olric.DMap

/-- every backup owner holds exactly what the primary owner holds for the key (value, expiry,
    timestamp; absent iff absent) -/
def Mirror (c : Cluster) (r : Route) (dm : Bytes) (k : Key) : Prop :=
  ∀ b ∈ r.baks, c.copy b .bak dm k = c.copy r.owner .prim dm k

def allReach : Reach := fun _ => true

end Olric.C04

namespace Olric.C08
open Olric Olric.DMap

/-- what is stored for one key, seen as a single entry: the state of the abstract lock (C08) and counter (C07) -/
abbrev LState := Option Copy

/-- a stable, healthy cluster as seen from the key's owner -/
structure Healthy (cfg : Cfg) (r : Route) : Prop where
  /-- no hand-over in progress -/
  prev : r.prev = []
  /-- the listed owners can meet the read and the write quorum -/
  rq : cfg.RQ ≤ r.baks.length + 1
  w : cfg.W ≤ r.baks.length + 1
  /-- `replicate` and `del` touch the backups only when R > 1: a route that lists backup owners needs it -/
  baks : cfg.R > 1 ∨ r.baks = []

/-- the abstract state of a cluster: what the owner stores for the key -/
def abs (c : Cluster) (r : Route) (dm : Bytes) (k : Key) : LState := c.copy r.owner .prim dm k

/-! Non-vacuity: R = 2, owner 1, backup 0 -/
def r1 : Route := ⟨[1], [0]⟩
def cfg1 : Cfg := { R := 2, W := 2, RQ := 1 }
example : Healthy cfg1 r1 := ⟨rfl, by decide, by decide, Or.inl (by decide)⟩

end Olric.C08

namespace Olric.DMap
open Olric.C04 Olric.C08

section
variable (cfg : Cfg) (r : Route) (c : Cluster) (dm : Bytes) (k : Key)

theorem filter_allReach (l : List Nat) : l.filter allReach = l :=
  List.filter_eq_self.mpr fun _ _ => rfl

theorem versions_length_allReach (now : Int) : r.baks.length + 1 ≤ (versions r allReach c dm k now).length :=
  filter_allReach r.baks ▸ versions_length_ge r allReach c dm k now

variable {r c dm k} in
/-- read-repair on or off: all versions carry the same timestamp, so the repair loop writes nothing -/
theorem get_mirrored (now : Int) (hm : Mirror c r dm k) (hprev : r.prev = []) (hq : cfg.RQ ≤ r.baks.length + 1) :
    get cfg r allReach c dm k now =
      (c, match live (abs c r dm k) now with | some x => Res.val x | none => Res.notFound) := by
  unfold abs
  -- every gathered version is the owner's live copy
  have hall : ∀ v ∈ versions r allReach c dm k now, v.2.2 = live (c.copy r.owner .prim dm k) now := by
    intro v hv
    obtain ⟨e, ⟨h1, h2⟩ | ⟨h1, _⟩ | ⟨h1, _, h2⟩⟩ := mem_versions hv
    · rw [e, h1, h2]
    · rw [hprev] at h1; cases h1
    · rw [e, h2, hm _ h1]
  have hlen := Nat.le_trans hq (versions_length_allReach r c dm k now)
  rw [get_eq]
  cases hl : live (c.copy r.owner .prim dm k) now with
  | none => rw [answer_of_nil hlen (copies_eq_nil.mpr fun v hv => by rw [hall v hv, hl])]; rfl
  | some x =>
    rw [hl] at hall
    -- every version carries a copy: `copies` drops nothing
    have hcop : (copies (versions r allReach c dm k now)).length = (versions r allReach c dm k now).length :=
      List.filterMap_length_eq_length.mpr fun v hv => by rw [hall v hv]; rfl
    rw [answer_all_same (fun v hv => .inr (hall v hv)) ⟨_, owner_mem_versions, hl⟩ (hcop ▸ hlen) (live_eq_some.mp hl).2]
    simp only [repaired, foldl_repairStep_id (fun v hv hs => hs.2 (by rw [hall v hv]; rfl)), ite_self]

variable {cfg r c dm k} in
theorem mirror_replicate (hR : cfg.R > 1 ∨ r.baks = []) {e : Copy} : Mirror (replicate cfg r allReach c dm k e).1 r dm k :=
  fun b hb => by
    rw [copy_bak_replicate (reach := allReach) (hR.resolve_right (List.ne_nil_of_mem hb)) hb rfl, copy_owner_replicate, if_pos rfl]

variable {cfg r c dm k} in
theorem mirror_del (hR : cfg.R > 1 ∨ r.baks = []) : Mirror (del cfg r c dm k) r dm k :=
  fun b hb => by rw [copy_bak_del (hR.resolve_right (List.ne_nil_of_mem hb)) hb, copy_owner_del, if_pos rfl]

end

section
variable {cfg : Cfg} {r : Route} (h : Healthy cfg r) (c : Cluster) (dm : Bytes) (k : Key)
include h

theorem replicate_healthy (e : Copy) :
    (replicate cfg r allReach c dm k e).2 = .ok ∧
    abs (replicate cfg r allReach c dm k e).1 r dm k = some e ∧
    Mirror (replicate cfg r allReach c dm k e).1 r dm k := by
  refine ⟨?_, ?_, mirror_replicate h.baks⟩
  · rw [replicate_snd, filter_allReach, if_neg fun hw => Nat.not_lt.mpr h.w hw.2]
  · unfold abs; rw [copy_owner_replicate, if_pos rfl]

/-- the form in which `put`, `expire` and what is built on them use it: the `match` on the result reduces -/
theorem replicate_ack (e : Copy) :
    replicate cfg r allReach c dm k e = ((replicate cfg r allReach c dm k e).1, .ok) :=
  Prod.ext rfl (replicate_healthy h c dm k e).1

theorem put_healthy (v : Bytes) (ttl : TTLOpt) (now : Int) :
    put cfg r allReach c dm k v { ttl := ttl } now =
      ((replicate cfg r allReach c dm k ⟨v, prepareTTL ttl cfg.dmTTL now, now⟩).1, .ok) :=
  replicate_ack h c dm k _

theorem del_healthy : abs (del cfg r c dm k) r dm k = none ∧ Mirror (del cfg r c dm k) r dm k := by
  refine ⟨?_, mirror_del h.baks⟩
  unfold abs; rw [copy_owner_del, if_pos rfl]

end

end Olric.DMap
