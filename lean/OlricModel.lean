import OlricModel.Base.Codec
import OlricModel.Cluster.Iterator
import OlricModel.Cluster.Pipeline
import OlricModel.Cluster.Routing
import OlricModel.DMap.Evict
import OlricModel.DMap.Model
import OlricModel.Generated.Facts
import OlricModel.Generated.Parsers
import OlricModel.Generated.ParsersSafe
import OlricModel.Proofs.CodecLemmas
import OlricModel.Proofs.DMapLemmas
import OlricModel.Proofs.HealthyCluster
import OlricModel.Proofs.IRSound
import OlricModel.Proofs.IterProofs
import OlricModel.Proofs.KVCompact
import OlricModel.Proofs.KVErase
import OlricModel.Proofs.KVFull
import OlricModel.Proofs.KVInv
import OlricModel.Proofs.KVLemmas
import OlricModel.Proofs.KVOps
import OlricModel.Proofs.KVPut
import OlricModel.Proofs.KVScanInv
import OlricModel.Proofs.KVTerm
import OlricModel.Proofs.KVWF
import OlricModel.Proofs.KVWalk
import OlricModel.Proofs.KVXfer
import OlricModel.Proofs.PipelineProofs
import OlricModel.Proofs.RoutingLemmas
import OlricModel.Proofs.ScanLemmas
import OlricModel.Proofs.SumLemmas
import OlricModel.Proofs.TableLemmas
import OlricModel.Props.C01
import OlricModel.Props.C02
import OlricModel.Props.C03
import OlricModel.Props.C04
import OlricModel.Props.C05
import OlricModel.Props.C06
import OlricModel.Props.C07
import OlricModel.Props.C08
import OlricModel.Props.C09
import OlricModel.Props.C10
import OlricModel.Props.C11
import OlricModel.Props.C12
import OlricModel.Props.C13
import OlricModel.Props.C14
import OlricModel.Props.C15
import OlricModel.Props.C16
import OlricModel.Props.C17
import OlricModel.Props.C18
import OlricModel.Props.C19
import OlricModel.Props.C20
import OlricModel.Proto.Codec
import OlricModel.Proto.IR
import OlricModel.PubSub.Model
import OlricModel.Store.Heap
import OlricModel.Store.Model
import OlricModel.Store.Pack
